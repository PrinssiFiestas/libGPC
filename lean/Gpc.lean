import Gpc.Model.Arena
import Gpc.Model.Array
import Gpc.Model.CaseFull
import Gpc.Model.CaseMap
import Gpc.Model.CaseTable
import Gpc.Model.Compare
import Gpc.Model.Conc
import Gpc.Model.DeferStack
import Gpc.Model.FileIO
import Gpc.Model.Generic
import Gpc.Model.Map
import Gpc.Model.Num
import Gpc.Model.PFString
import Gpc.Model.Print
import Gpc.Model.Printf
import Gpc.Model.Proto
import Gpc.Model.Scope
import Gpc.Model.Scratch
import Gpc.Model.Search
import Gpc.Model.Str
import Gpc.Model.TestFw
import Gpc.Model.Utf
import Gpc.Model.Utf8
import Gpc.Spec.CaseFull
import Gpc.Spec.Printf
import Gpc.Spec.Utf8
import Gpc.Ucd.Case
import Gpc.Ucd.CaseFull
import Gpc.Generated.CaseFull
import Gpc.Generated.CaseTables
import Gpc.Generated.Conc
import Gpc.Proofs.Arena
import Gpc.Proofs.Array
import Gpc.Proofs.CaseClasses
import Gpc.Proofs.CaseMap
import Gpc.Proofs.Conc
import Gpc.Proofs.FloatPlan
import Gpc.Proofs.FloatSpecWF
import Gpc.Proofs.FloatValue
import Gpc.Proofs.FmtArgs
import Gpc.Proofs.FmtCount
import Gpc.Proofs.List
import Gpc.Proofs.Map
import Gpc.Proofs.Nat
import Gpc.Proofs.Num
import Gpc.Proofs.PFString
import Gpc.Proofs.Print
import Gpc.Proofs.Printf
import Gpc.Proofs.Scope
import Gpc.Proofs.Search
import Gpc.Proofs.Str
import Gpc.Proofs.Utf
import Gpc.Proofs.Utf8
import Gpc.Proofs.Utf8Sync
import Gpc.Props.C01
import Gpc.Props.C02
import Gpc.Props.C03
import Gpc.Props.C04
import Gpc.Props.C05
import Gpc.Props.C06
import Gpc.Props.C07
import Gpc.Props.C08
import Gpc.Props.C09
import Gpc.Props.C10
import Gpc.Props.C11
import Gpc.Props.C12
import Gpc.Props.C13
import Gpc.Props.C14
import Gpc.Props.C15
import Gpc.Props.C16
import Gpc.Props.C17
import Gpc.Props.C18
import Gpc.Props.C19
import Gpc.Props.C20
import Gpc.Driver.Arena
import Gpc.Driver.Array
import Gpc.Driver.CaseFull
import Gpc.Driver.CaseMap
import Gpc.Driver.Conc
import Gpc.Driver.FileIO
import Gpc.Driver.Generic
import Gpc.Driver.Map
import Gpc.Driver.Num
import Gpc.Driver.Printf
import Gpc.Driver.Scope
import Gpc.Driver.Search
import Gpc.Driver.Str
import Gpc.Driver.TestFw
import Gpc.Driver.Utf
import Gpc.Driver.Utf8
/-! The library: models of libGPC, their specifications, and the theorems of the properties C01–C20 about them.
What each module holds and what rests on what is said in DESIGN.md (section 10.12). -/
