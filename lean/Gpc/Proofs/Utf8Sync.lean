import Gpc.Proofs.Utf8
import Gpc.Proofs.Search
/-!
Self-synchronisation of UTF-8: in a concatenation of well-formed sequences a well-formed sequence occurs
only at sequence boundaries.  This makes the library's `strstr`-based set membership (`gp_str_trim`,
`gp_str_find_first_of`, `gp_str_split`) membership in the set of code points.
-/
namespace Gpc.Utf8
open Gpc.Search (OccursAt occursAt_head)

/-- a complete well-formed sequence (one code point's bytes) -/
def IsCp (c : Bytes) : Prop := c ≠ [] ∧ wfLen c = c.length

theorem IsCp.row {c : Bytes} (h : IsCp c) : Row c := row_of_wfLen c h.1 h.2

theorem IsCp.length_pos {c : Bytes} (h : IsCp c) : 0 < c.length := List.length_pos_iff.mpr h.1

theorem IsCp.cpLen {b : UInt8} {t : Bytes} (h : IsCp (b :: t)) : cpLen b = (b :: t).length := h.row.cpLen

theorem cpLen_cont (b : UInt8) (h : cont b) : cpLen b = 0 := by
  have := cpLen_cases b
  unfold cont at h
  omega

theorem isCp_prefix_unique (c ch t R : Bytes) (hc : IsCp c) (hch : IsCp ch) (e : c ++ t = ch ++ R) : c = ch := by
  have h1 := hc.row.wfLen_append t
  have h2 := hch.row.wfLen_append R
  rw [e, h2] at h1
  have := congrArg (List.take c.length) e
  rw [List.take_left' rfl, ← h1, List.take_left' rfl] at this
  exact this

theorem occursAt_of_mem (cs : List Bytes) (c : Bytes) (h : c ∈ cs) :
    ∃ i, i ≤ cs.flatten.length ∧ OccursAt cs.flatten c i := by
  induction cs with
  | nil => cases h
  | cons x rest ih =>
    rcases List.mem_cons.1 h with e | e
    · subst e
      exact ⟨0, Nat.zero_le _, by simp [OccursAt]⟩
    · obtain ⟨i, h1, h2⟩ := ih e
      refine ⟨x.length + i, by rw [List.flatten_cons, List.length_append]; omega, ?_⟩
      rw [OccursAt, List.flatten_cons, List.drop_length_add_append]
      exact h2

theorem mem_of_occursAt (cs : List Bytes) (hcs : ∀ x ∈ cs, IsCp x) (c : Bytes) (hc : IsCp c) (i : Nat)
    (ho : OccursAt cs.flatten c i) : c ∈ cs := by
  obtain _ | ⟨c0, c'⟩ := c
  · exact absurd rfl hc.1
  induction cs generalizing i with
  | nil => exact nomatch occursAt_head _ _ _ _ ho
  | cons ch rest ih =>
    have hch := hcs ch List.mem_cons_self
    rw [List.flatten_cons] at ho
    rcases Nat.lt_or_ge i ch.length with hi | hi
    · obtain _ | k := i
      · obtain ⟨t, ht⟩ := ho
        exact List.mem_cons.2 (Or.inl (isCp_prefix_unique _ ch t rest.flatten hc hch ht))
      · -- the occurrence starts inside `ch`: the lead byte of `c` would be a continuation byte of `ch`
        have hb := occursAt_head _ _ _ _ ho
        rw [List.getElem?_append_left hi] at hb
        obtain _ | ⟨b0, ch'⟩ := ch
        · cases hi
        · exact absurd (hch.row.tail_cont c0 (List.mem_of_getElem? hb)) hc.row.lead_not_cont
    · obtain ⟨j, rfl⟩ := Nat.exists_eq_add_of_le hi
      rw [OccursAt, List.drop_length_add_append] at ho
      exact List.mem_cons_of_mem _ (ih (fun x hx => hcs x (List.mem_cons_of_mem _ hx)) j ho)
end Gpc.Utf8
