import Gpc.Model.Utf
import Gpc.Proofs.Utf8
import Gpc.Proofs.List
import Gpc.Proofs.Nat
/-!
The masks and shifts of `gp_utf8_decode` / `gp_utf8_encode` as div/mod arithmetic; the codec on one code
point through the relation `Enc`; its lifting to strings.
-/
namespace Gpc.Utf
open Gpc.Utf8

theorem field4 (c k : Nat) : (c &&& (0xF <<< k)) >>> k = (c / 2 ^ k) % 16 := by
  simpa using field c 4 k k (Nat.le_refl k)

theorem encNat_eq (c : Nat) (hc : c < 0x200000) : encNat c =
    if c < 0x80 then [c]
    else if c < 0x800 then [0xC0 + c / 64, 0x80 + c % 64]
    else if c < 0x10000 then [0xE0 + c / 64 / 64, 0x80 + c / 64 % 64, 0x80 + c % 64]
    else [0xF0 + c / 64 / 64 / 64, 0x80 + c / 64 / 64 % 64, 0x80 + c / 64 % 64, 0x80 + c % 64] := by
  have f0 : (c &&& 0x3F) >>> 0 = c % 64 := by simpa using field c 6 0 0 (Nat.le_refl _)
  have f6 : (c &&& 0xFC0) >>> 6 = c / 64 % 64 := by simpa using field c 6 6 6 (Nat.le_refl _)
  have f12 : (c &&& 0x3F000) >>> 12 = c / 64 / 64 % 64 := by
    simpa [Nat.div_div_eq_div_mul] using field c 6 12 12 (Nat.le_refl _)
  have f18 : (c &&& 0x1C0000) >>> 18 = c / 64 / 64 / 64 % 8 := by
    simpa [Nat.div_div_eq_div_mul] using field c 3 18 18 (Nat.le_refl _)
  have t80 (v : Nat) (h : v < 64) : v ||| 0x80 = 0x80 + v := or_tag 2 v 6 h
  unfold encNat
  -- the field equations leave the context before `omega` runs: it would take `&&&`, `>>>` for atoms
  rw [f0, f6, f12, f18]; clear f0 f6 f12 f18
  by_cases h1 : c < 0x80
  · rw [if_neg (by omega), if_pos h1]
  rw [if_pos (by omega), if_neg h1]
  refine ite_congr rfl (fun h2 => ?_) (fun h2 => ite_congr rfl (fun h3 => ?_) (fun h3 => ?_))
  · rw [t80 _ (by omega), or_tag 3 _ 6 (by omega)]; congr 2; omega
  · rw [t80 _ (by omega), t80 _ (by omega), or_tag 7 _ 5 (by omega)]; congr 2; omega
  · rw [t80 _ (by omega), t80 _ (by omega), t80 _ (by omega), or_tag 15 _ 4 (by omega)]; congr 2; omega

theorem unpackCp_eq (e : Nat) : unpackCp e =
    if e > 0x7F then
      e / 256 / 256 / 256 % 8 * 262144 + e / 256 / 256 % (if e ≤ 0x00EFBFBF then 16 else 64) * 4096
        + e / 256 % 64 * 64 + e % 64
    else e := by
  have f24 : (e &&& 0x07000000) >>> 6 = e / 16777216 % 8 * 2 ^ 18 := field e 3 24 6 (by decide)
  have f16 : (e &&& 0x000F0000) >>> 4 = e / 65536 % 16 * 2 ^ 12 := field e 4 16 4 (by decide)
  have f16' : (e &&& 0x003F0000) >>> 4 = e / 65536 % 64 * 2 ^ 12 := field e 6 16 4 (by decide)
  have f8 : (e &&& 0x00003F00) >>> 2 = e / 256 % 64 * 2 ^ 6 := field e 6 8 2 (by decide)
  have f0 : e &&& 0x0000003F = e % 64 := Nat.and_two_pow_sub_one_eq_mod e 6
  -- fields that do not overlap are added
  have join (a b c d : Nat) (hb : b < 64) (hc : c < 64) (hd : d < 64) :
      a * 2 ^ 18 ||| b * 2 ^ 12 ||| c * 2 ^ 6 ||| d = a * 262144 + b * 4096 + c * 64 + d := by
    rw [Nat.or_assoc, Nat.or_assoc, or_fields _ _ 6 hd, or_fields _ _ 12 (by omega), or_fields _ _ 18 (by omega)]
    omega
  simp only [unpackCp, Nat.div_div_eq_div_mul]
  refine ite_congr rfl (fun _ => ?_) (fun _ => rfl)
  rw [f24, f8, f0]; clear f24 f8 f0
  split
  · rw [f16, join _ _ _ _ (by omega) (by omega) (by omega)]
  · rw [f16', join _ _ _ _ (by omega) (by omega) (by omega)]

theorem mod64 (a b : Nat) : (a * 256 + b) % 64 = b % 64 := by omega

/-- a mask below the tag takes the tag off: `b` is the digit `d` under the tag `m * t` -/
theorem untag (t m d b : Nat) (hb : b = m * t + d) (hd : d < m) : b % m = d := by
  rw [hb, Nat.mul_add_mod, Nat.mod_eq_of_lt hd]

/-- `Enc c s`: the bytes `s` spell `c` as `gp_utf8_decode` writes it: the value itself below 0x80, otherwise
its base-64 digits `d0 d1 …`, the leading one under the tag of the length (`0xC0`, `0xE0`, `0xF0`), the
others under the continuation tag `0x80`, in the shortest length that holds the value.  Every
`c < 0x200000` has one, surrogates included; at the scalar values they are the rows of Table 3-7. -/
inductive Enc : Nat → Bytes → Prop
  | one {b0 : UInt8} {c : Nat} : b0.toNat = c → c < 0x80 → Enc c [b0]
  | two {b0 b1 : UInt8} {d0 d1 : Nat} : b0.toNat = 0xC0 + d0 → b1.toNat = 0x80 + d1 → d1 < 64 →
      0x80 ≤ d0 * 64 + d1 → d0 * 64 + d1 < 0x800 → Enc (d0 * 64 + d1) [b0, b1]
  | three {b0 b1 b2 : UInt8} {d0 d1 d2 : Nat} : b0.toNat = 0xE0 + d0 → b1.toNat = 0x80 + d1 →
      b2.toNat = 0x80 + d2 → d1 < 64 → d2 < 64 → 0x800 ≤ (d0 * 64 + d1) * 64 + d2 →
      (d0 * 64 + d1) * 64 + d2 < 0x10000 → Enc ((d0 * 64 + d1) * 64 + d2) [b0, b1, b2]
  | four {b0 b1 b2 b3 : UInt8} {d0 d1 d2 d3 : Nat} : b0.toNat = 0xF0 + d0 → b1.toNat = 0x80 + d1 →
      b2.toNat = 0x80 + d2 → b3.toNat = 0x80 + d3 → d1 < 64 → d2 < 64 → d3 < 64 →
      0x10000 ≤ ((d0 * 64 + d1) * 64 + d2) * 64 + d3 → ((d0 * 64 + d1) * 64 + d2) * 64 + d3 < 0x200000 →
      Enc (((d0 * 64 + d1) * 64 + d2) * 64 + d3) [b0, b1, b2, b3]

theorem encodeU8_of_encNat (c : Nat) (s : Bytes) (h : encNat c = s.map UInt8.toNat) : encodeU8 c = s := by
  rw [encodeU8, h, List.map_map]
  exact (List.map_congr_left fun b _ => UInt8.ofNat_toNat).trans (List.map_id s)

/-- the encoder's divisions are met here only, read off the named digits by `digit_div` and `Nat.mul_add_mod_of_lt`;
`enc_encodeU8`, `Enc.row` and `row_is_encoding` are linear arithmetic -/
theorem Enc.eq {c : Nat} {s : Bytes} (h : Enc c s) : encodeU8 c = s := by
  apply encodeU8_of_encNat
  cases h with
  | one h0 h => rw [encNat_eq _ (by omega), if_pos h, ← h0]; rfl
  | two h0 h1 hd1 h h' =>
    rw [encNat_eq _ (by omega), if_neg (by omega), if_pos h', digit_div hd1, Nat.mul_add_mod_of_lt hd1, ← h0, ← h1]
    rfl
  | three h0 h1 h2 hd1 hd2 h h' =>
    rw [encNat_eq _ (by omega), if_neg (by omega), if_neg (by omega), if_pos h', digit_div hd2, digit_div hd1,
      Nat.mul_add_mod_of_lt hd2, Nat.mul_add_mod_of_lt hd1, ← h0, ← h1, ← h2]
    rfl
  | four h0 h1 h2 h3 hd1 hd2 hd3 h h' =>
    rw [encNat_eq _ h', if_neg (by omega), if_neg (by omega), if_neg (by omega), digit_div hd3, digit_div hd2,
      digit_div hd1, Nat.mul_add_mod_of_lt hd3, Nat.mul_add_mod_of_lt hd2, Nat.mul_add_mod_of_lt hd1,
      ← h0, ← h1, ← h2, ← h3]
    rfl

theorem exists_digit (c : Nat) : ∃ x d, c = x * 64 + d ∧ d < 64 := ⟨c / 64, c % 64, by omega, by omega⟩

theorem enc_encodeU8 (c : Nat) (hc : c < 0x200000) : Enc c (encodeU8 c) := by
  have byte (n : Nat) (h : n < 256) : (UInt8.ofNat n).toNat = n := UInt8.toNat_ofNat_of_lt' h
  have found {c s} (e : Enc c s) : Enc c (encodeU8 c) := e.eq ▸ e
  rcases Nat.lt_or_ge c 0x80 with h1 | h1
  · exact found (.one (byte c (by omega)) h1)
  -- the digits are taken off the low end, one more for each length: `d`, then `d'`, then `d''`
  obtain ⟨x, d, rfl, hd⟩ := exists_digit c
  rcases Nat.lt_or_ge (x * 64 + d) 0x800 with h2 | h2
  · exact found (.two (byte _ (by omega)) (byte _ (by omega)) hd h1 h2)
  obtain ⟨y, d', rfl, hd'⟩ := exists_digit x
  rcases Nat.lt_or_ge ((y * 64 + d') * 64 + d) 0x10000 with h3 | h3
  · exact found (.three (byte _ (by omega)) (byte _ (by omega)) (byte _ (by omega)) hd' hd h2 h3)
  obtain ⟨z, d'', rfl, hd''⟩ := exists_digit y
  exact found (.four (byte _ (by omega)) (byte _ (by omega)) (byte _ (by omega)) (byte _ (by omega)) hd'' hd' hd h3 hc)

theorem Enc.cpLen {c : Nat} {b0 : UInt8} {t : Bytes} (h : Enc c (b0 :: t)) : cpLen b0 = t.length + 1 := by
  have := cpLen_cases b0
  -- the bound on the value bounds the leading digit, which places the lead byte in the range of its length
  cases h with
  | one h0 h => show _ = 1; omega
  | two h0 _ _ _ h' => show _ = 2; omega
  | three h0 _ _ _ _ _ h' => show _ = 3; omega
  | four h0 _ _ _ _ _ _ _ h' => show _ = 4; omega

theorem Enc.unpack {c : Nat} {s : Bytes} (h : Enc c s) : unpackCp (pack s) = c := by
  cases h with
  | one h0 h => rw [pack1, h0, unpackCp_eq, if_neg (by omega)]
  | @two b0 b1 d0 d1 h0 h1 hd1 =>
    rw [pack2, unpackCp_eq, if_pos (by omega), if_pos (by omega), mod64, digit_div b1.toNat_lt,
      Nat.div_eq_of_lt b0.toNat_lt, Nat.zero_div, Nat.zero_mod, Nat.zero_mul, Nat.zero_add,
      untag 3 64 d0 _ h0 (by have := b0.toNat_lt; omega), untag 2 64 d1 _ h1 hd1]
  | @three b0 b1 b2 d0 d1 d2 h0 h1 h2 hd1 hd2 _ h' =>
    rw [pack3, unpackCp_eq, if_pos (by omega), if_pos (by omega), mod64, digit_div b2.toNat_lt, mod64,
      digit_div b1.toNat_lt, Nat.div_eq_of_lt b0.toNat_lt, Nat.zero_mod, Nat.zero_mul, Nat.zero_add,
      untag 14 16 d0 _ h0 (by omega), untag 2 64 d1 _ h1 hd1, untag 2 64 d2 _ h2 hd2]
    omega
  | @four b0 b1 b2 b3 d0 d1 d2 d3 h0 h1 h2 h3 hd1 hd2 hd3 _ h' =>
    rw [pack4, unpackCp_eq, if_pos (by omega), if_neg (by omega), mod64, digit_div b3.toNat_lt, mod64,
      digit_div b2.toNat_lt, mod64, digit_div b1.toNat_lt,
      untag 30 8 d0 _ h0 (by omega), untag 2 64 d1 _ h1 hd1, untag 2 64 d2 _ h2 hd2, untag 2 64 d3 _ h3 hd3]
    omega

theorem decodeU8_append (b0 : UInt8) (t rest : Bytes) (h : cpLen b0 = t.length + 1) :
    decodeU8 (b0 :: t ++ rest) = some (unpackCp (pack (b0 :: t)), t.length + 1) := by
  simp only [decodeU8, h, List.cons_append, List.length_cons, List.length_append, List.take_succ_cons, List.take_left']
  rw [if_neg (by omega)]

theorem Enc.decode {c : Nat} {s : Bytes} (h : Enc c s) (rest : Bytes) :
    decodeU8 (s ++ rest) = some (c, s.length) := by
  rcases s with _ | ⟨b0, t⟩
  · cases h
  · rw [decodeU8_append b0 t rest h.cpLen, h.unpack]; rfl

theorem decode_encode (c : Nat) (hc : c < 0x110000) (rest : Bytes) :
    decodeU8 (encodeU8 c ++ rest) = some (c, (encodeU8 c).length) :=
  (enc_encodeU8 c (by omega)).decode rest

/-- a Unicode scalar value: below 0x110000 and not a surrogate -/
def IsScalar (c : Nat) : Prop := c < 0x110000 ∧ ¬ (0xD800 ≤ c ∧ c ≤ 0xDFFF)

theorem Enc.row {c : Nat} {s : Bytes} (h : Enc c s) (hc : IsScalar c) : Row s := by
  obtain ⟨hc1, hc2⟩ := hc
  cases h with
  | one h0 h => exact .one (by omega)
  | two h0 h1 hd1 h h' => exact .two (by omega) (by omega) (by unfold cont; omega)
  | three h0 h1 h2 hd1 hd2 h h' =>
    exact .three (by omega) (by omega) (by unfold sec3 cont; omega) (by unfold cont; omega)
  | four h0 h1 h2 h3 hd1 hd2 hd3 h h' =>
    exact .four (by omega) (by omega) (by unfold sec4 cont; omega) (by unfold cont; omega) (by unfold cont; omega)

theorem encode_row (c : Nat) (hc : IsScalar c) : Row (encodeU8 c) :=
  (enc_encodeU8 c (by have := hc.1; omega)).row hc

/-- with `decode_encode`: a row decodes to the one scalar value whose encoding it is, so no well-formed
sequence has two readings and overlong forms never arise -/
theorem row_is_encoding {s : Bytes} (h : Row s) : ∃ c, IsScalar c ∧ encodeU8 c = s := by
  cases h with
  | @one b0 h0 => exact ⟨_, ⟨by omega, by omega⟩, (Enc.one rfl (by omega)).eq⟩
  | @two b0 b1 h0 h0' h1 =>
    obtain ⟨d0, e0⟩ := Nat.exists_eq_add_of_le (Nat.le_trans (by decide : 0xC0 ≤ 0xC2) h0)
    obtain ⟨d1, e1⟩ := Nat.exists_eq_add_of_le h1.1
    have := h1.2
    exact ⟨_, ⟨by omega, by omega⟩, (Enc.two e0 e1 (by omega) (by omega) (by omega)).eq⟩
  | @three b0 b1 b2 h0 h0' h1 h2 =>
    obtain ⟨d0, e0⟩ := Nat.exists_eq_add_of_le h0
    obtain ⟨d1, e1⟩ := Nat.exists_eq_add_of_le h1.2.2.1
    obtain ⟨d2, e2⟩ := Nat.exists_eq_add_of_le h2.1
    have := h1.2.2.2; have := h2.2
    -- the restrictions on the second byte say: not overlong (`h1.1`), not a surrogate (`h1.2.1`)
    exact ⟨_, ⟨by omega, by have := h1.2.1; omega⟩,
      (Enc.three e0 e1 e2 (by omega) (by omega) (by have := h1.1; omega) (by omega)).eq⟩
  | @four b0 b1 b2 b3 h0 h0' h1 h2 h3 =>
    obtain ⟨d0, e0⟩ := Nat.exists_eq_add_of_le h0
    obtain ⟨d1, e1⟩ := Nat.exists_eq_add_of_le h1.2.2.1
    obtain ⟨d2, e2⟩ := Nat.exists_eq_add_of_le h2.1
    obtain ⟨d3, e3⟩ := Nat.exists_eq_add_of_le h3.1
    have := h1.2.2.2; have := h2.2; have := h3.2
    -- here they say: not overlong (`h1.1`), not above U+10FFFF (`h1.2.1`)
    exact ⟨_, ⟨by have := h1.2.1; omega, by have := h1.1; omega⟩,
      (Enc.four e0 e1 e2 e3 (by omega) (by omega) (by omega) (by have := h1.1; omega) (by omega)).eq⟩

theorem encode_decode (s : Bytes) (hs : s ≠ []) (hw : wfLen s = s.length) :
    ∃ c, decodeU8 s = some (c, s.length) ∧ encodeU8 c = s ∧ IsScalar c := by
  obtain ⟨c, hc, rfl⟩ := row_is_encoding (row_of_wfLen s hs hw)
  exact ⟨c, (congrArg decodeU8 (List.append_nil _)).symm.trans (decode_encode c hc.1 []), rfl, hc⟩

theorem encodeU8_length (c : Nat) : (encodeU8 c).length = byteLen c := by
  rw [encodeU8, List.length_map, encNat, byteLen]
  split
  · split
    · rfl
    · split <;> rfl
  · rfl

theorem byteLen_bounds (c : Nat) : 1 ≤ byteLen c ∧ byteLen c ≤ 4 := by
  unfold byteLen; (repeat' split) <;> omega

theorem encodeU8_ne_nil (c : Nat) : encodeU8 c ≠ [] := by
  intro e; have := congrArg List.length e
  rw [encodeU8_length, List.length_nil] at this; have := byteLen_bounds c; omega

theorem wellFormed_is_encoding (s : Bytes) (h : WellFormed s) :
    ∃ cps : List Nat, (∀ c ∈ cps, IsScalar c) ∧ s = cps.flatMap encodeU8 := by
  induction h using WellFormed.induction_row with
  | nil => exact ⟨[], nofun, rfl⟩
  | cons c rest hc _ ih =>
    obtain ⟨cps, h1, rfl⟩ := ih
    obtain ⟨cp, hsc, rfl⟩ := row_is_encoding hc
    exact ⟨cp :: cps, List.forall_mem_cons.2 ⟨hsc, h1⟩, rfl⟩

theorem wellFormed_encoding (cps : List Nat) (h : ∀ c ∈ cps, IsScalar c) : WellFormed (cps.flatMap encodeU8) := by
  induction cps with
  | nil => exact WellFormed.nil
  | cons c cs ih =>
    exact (encode_row c (h c List.mem_cons_self)).wellFormed_append (ih fun x hx => h x (List.mem_cons_of_mem _ hx))

theorem u32Fast_encoding (cps : List Nat) (hc : ∀ c ∈ cps, c < 0x110000) (cap : Nat) :
    u32Fast cap (cps.flatMap encodeU8) = some (cps.take cap, (cps.drop cap).flatMap encodeU8) := by
  induction cap generalizing cps with
  | zero => rfl
  | succ k ih =>
    rcases cps with _ | ⟨c, cs⟩
    · rfl
    · have hne := encodeU8_ne_nil c
      rw [List.flatMap_cons]
      cases e : encodeU8 c ++ cs.flatMap encodeU8 with
      | nil => exact absurd (List.append_eq_nil_iff.1 e).1 hne
      | cons b t =>
        simp only [u32Fast]
        rw [← e, decode_encode c (hc c List.mem_cons_self)]
        simp only [List.length_eq_zero_iff, hne, if_false, List.drop_left',
          ih cs fun x hx => hc x (List.mem_cons_of_mem _ hx)]
        rfl

/-- the slow loop is the fast loop run to the end -/
theorem decodeAll_eq_u32Fast (fuel : Nat) (s : Bytes) : decodeAll fuel s = (u32Fast fuel s).map (·.1) := by
  induction fuel generalizing s with
  | zero => rfl
  | succ f ih =>
    rcases s with _ | ⟨b, t⟩
    · rfl
    · simp only [decodeAll, u32Fast]
      split
      · rfl
      · split
        · rfl
        · rw [ih]; cases u32Fast f _ <;> rfl

theorem decodeAll_encoding (cps : List Nat) (hc : ∀ c ∈ cps, c < 0x110000) (fuel : Nat)
    (hf : (cps.flatMap encodeU8).length ≤ fuel) : decodeAll fuel (cps.flatMap encodeU8) = some cps := by
  have := length_le_flatten (cps.map encodeU8) (List.forall_mem_map.2 fun c _ => encodeU8_ne_nil c)
  rw [List.length_map, ← List.flatMap_def] at this
  rw [decodeAll_eq_u32Fast, u32Fast_encoding cps hc, Option.map_some, List.take_of_length_le (by omega)]

end Gpc.Utf
