/-! Facts about core's lists that several modules use and core does not state: where `takeWhile` / `dropWhile` cut,
lengths and indices of concatenations, induction from the end, the lexicographic order by cases.  Nothing here
mentions the model. -/
namespace Gpc

variable {α : Type}

theorem mem_takeWhile {p : α → Bool} {l : List α} {a : α} (h : a ∈ l.takeWhile p) : p a = true :=
  List.all_eq_true.mp List.all_takeWhile a h

theorem mem_head?_dropWhile {p : α → Bool} {l : List α} {a : α} (h : a ∈ (l.dropWhile p).head?) : p a = false := by
  have := List.head?_dropWhile_not p l
  rwa [Option.mem_def.mp h] at this

/-- a run of members satisfying `p`, then nothing or a member that does not: where `takeWhile` / `dropWhile` cut -/
theorem span_append {p : α → Bool} {l₁ l₂ : List α} (h₁ : ∀ a ∈ l₁, p a) (h₂ : ∀ a ∈ l₂.head?, p a = false) :
    (l₁ ++ l₂).takeWhile p = l₁ ∧ (l₁ ++ l₂).dropWhile p = l₂ := by
  rw [List.takeWhile_append_of_pos h₁, List.dropWhile_append_of_pos h₁]
  cases l₂ with
  | nil => exact ⟨List.append_nil _, rfl⟩
  | cons c t =>
    have hc : ¬ p c = true := by rw [h₂ c rfl]; exact Bool.false_ne_true
    rw [List.takeWhile_cons_of_neg hc, List.dropWhile_cons_of_neg hc]
    exact ⟨List.append_nil _, rfl⟩

theorem dropWhile_eq_self {p : α → Bool} {l : List α} (h : ∀ a ∈ l.head?, p a = false) : l.dropWhile p = l :=
  (span_append (l₁ := []) (fun _ => nofun) h).2

theorem span_eq (p : α → Bool) (l : List α) : ∃ T D, l.takeWhile p = T ∧ l.dropWhile p = D ∧ T ++ D = l :=
  ⟨_, _, rfl, rfl, List.takeWhile_append_dropWhile⟩

theorem drop_takeWhile_length (p : α → Bool) (l : List α) : l.drop (l.takeWhile p).length = l.dropWhile p := by
  conv => lhs; arg 2; rw [← List.takeWhile_append_dropWhile (p := p) (l := l)]
  exact List.drop_left

theorem takeWhile_eq_replicate [DecidableEq α] (l : List α) (c : α) :
    l.takeWhile (· = c) = List.replicate (l.takeWhile (· = c)).length c := by
  rw [List.eq_replicate_iff]
  exact ⟨rfl, fun b hb => by simpa using mem_takeWhile hb⟩

theorem reverse_dropWhile_append (p : α → Bool) (l : List α) :
    (l.reverse.dropWhile p).reverse ++ (l.reverse.takeWhile p).reverse = l := by
  rw [← List.reverse_append, List.takeWhile_append_dropWhile, List.reverse_reverse]

theorem length_take_drop {l : List α} {s n : Nat} (h : n ≤ l.length - s) : ((l.drop s).take n).length = n := by
  rw [List.length_take, List.length_drop]; exact Nat.min_eq_left h

theorem flatten_length_of_all (l : List (List α)) (n : Nat) (h : ∀ e ∈ l, e.length = n) :
    l.flatten.length = l.length * n := by
  induction l with
  | nil => simp
  | cons x xs ih =>
    simp only [List.flatten_cons, List.length_append, List.length_cons]
    rw [h x List.mem_cons_self, ih (fun e he => h e (List.mem_cons_of_mem _ he)), Nat.succ_mul]; omega

theorem length_le_flatten (l : List (List α)) (h : ∀ x ∈ l, x ≠ []) : l.length ≤ l.flatten.length := by
  induction l with
  | nil => exact Nat.le_refl _
  | cons a t ih =>
    have := List.length_pos_iff.2 (h a List.mem_cons_self)
    have := ih fun x hx => h x (List.mem_cons_of_mem _ hx)
    rw [List.length_cons, List.flatten_cons, List.length_append]; omega

theorem getElem?_splice (a b c : List α) (i : Nat) :
    (a ++ b ++ c)[i]? = if i < a.length then a[i]? else if i < a.length + b.length then b[i - a.length]? else c[i - a.length - b.length]? := by
  rw [List.append_assoc, List.getElem?_append]
  split
  · rfl
  · rw [List.getElem?_append]
    split
    · have : i < a.length + b.length := by omega
      simp [this]
    · have : ¬ i < a.length + b.length := by omega
      simp [this]

theorem getElem?_mid (pre mid post : List α) (j : Nat) (hj : j < mid.length) :
    (pre ++ mid ++ post)[pre.length + j]? = mid[j]? := by
  rw [List.append_assoc, List.getElem?_append_right (Nat.le_add_right _ _), Nat.add_sub_cancel_left,
    List.getElem?_append_left hj]

theorem getElem?_not_both {l : List α} {j : Nat} {p : α → Prop} :
    (∃ c, l[j]? = some c ∧ p c) → (∃ c, l[j]? = some c ∧ ¬ p c) → False :=
  fun ⟨_, e1, hp⟩ ⟨_, e2, hq⟩ => hq (Option.some.inj (e1.symm.trans e2) ▸ hp)

theorem not_snoc_prefix_self (p : List α) (i : α) : ¬ p ++ [i] <+: p := by
  intro h
  have := h.length_le
  rw [List.length_append, List.length_singleton] at this
  omega

theorem snoc_prefix_inj {p q : List α} {i j : α} (h1 : p ++ [i] <+: q) (h2 : p ++ [j] <+: q) : i = j := by
  have := (List.prefix_of_prefix_length_le h1 h2 (by simp)).eq_of_length (by simp)
  simpa using this

theorem sum_set_pred (l : List Nat) (t k : Nat) (h : l[t]? = some (k + 1)) : (l.set t k).sum + 1 = l.sum := by
  induction l generalizing t with
  | nil => simp at h
  | cons x r ih =>
    cases t with
    | zero => simp at h; subst h; simp [List.sum_cons]; omega
    | succ t' =>
      simp at h
      have := ih t' h
      simp [List.sum_cons]; omega

theorem snoc_induction {motive : List α → Prop} (nil : motive [])
    (snoc : ∀ ds b, motive ds → motive (ds ++ [b])) (ds : List α) : motive ds := by
  have rev (rs : List α) : motive rs.reverse := by
    induction rs with
    | nil => exact nil
    | cons b t ih => rw [List.reverse_cons]; exact snoc _ b ih
  simpa using rev ds.reverse

/-- below in the lexicographic order: smaller at the first difference, or a proper prefix -/
theorem lt_iff_split [LT α] (a b : List α) :
    a < b ↔ (∃ p x y s t, a = p ++ x :: s ∧ b = p ++ y :: t ∧ x < y) ∨ (∃ y t, b = a ++ y :: t) := by
  constructor
  · intro h
    induction h with
    | nil => exact Or.inr ⟨_, _, rfl⟩
    | rel h => exact Or.inl ⟨[], _, _, _, _, rfl, rfl, h⟩
    | @cons x _ _ _ ih =>
      obtain ⟨p, x', y', s, t, rfl, rfl, hlt⟩ | ⟨y', t, rfl⟩ := ih
      · exact Or.inl ⟨x :: p, x', y', s, t, rfl, rfl, hlt⟩
      · exact Or.inr ⟨y', t, rfl⟩
  · rintro (⟨p, x, y, s, t, rfl, rfl, hlt⟩ | ⟨y, t, rfl⟩)
    · exact List.append_left_lt (List.Lex.rel hlt)
    · simpa using List.append_left_lt (l₁ := a) (List.nil_lt_cons y t)

theorem mapM_eq_map {β : Type} {f : α → Option β} {g : α → β} (l : List α) (h : ∀ a ∈ l, f a = some (g a)) :
    l.mapM f = some (l.map g) := by
  induction l with
  | nil => rfl
  | cons a t ih =>
    simp [List.mapM_cons, h a List.mem_cons_self, ih fun x hx => h x (List.mem_cons_of_mem _ hx)]

end Gpc
