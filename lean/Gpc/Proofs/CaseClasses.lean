import Gpc.Proofs.CaseMap
/-!
The case-folding classes `cls`: by kernel evaluation over the class table, every class is an orbit of
`gp_u32_simple_fold` in increasing cyclic order and a fibre of the UCD simple case folding (`cls_spec`).
-/
namespace Gpc.CaseMap
open Gpc.CaseTable Gpc.Generated

/-- UCD Simple_Case_Folding (status C + S) -/
def scf (c : Nat) : Nat := Gpc.Ucd.scfT.apply c

/-- the case-folding class of a code point (a singleton if it has no case variants) -/
def cls (c : Nat) : List Nat := (Gpc.Ucd.classOfT.find c).getD [c]

/-- checker for one class.  The bound 8: `equalCp` runs the walk with fuel 8, which carries it once
around a class of at most 9 members. -/
def classOk (F S : Nat → Nat) : List Nat → Bool
  | [] => false
  | x :: l => decide ((x :: l).Pairwise (· < ·)) && steps F x l x && decide (l.length ≤ 8) &&
      (x :: l).contains (S x) && l.all (S · == S x)

theorem classOk_spec {F S : Nat → Nat} {cl : List Nat} (h : classOk F S cl = true) :
    cyclic F cl ∧ cl.length ≤ 9 ∧ ∃ v ∈ cl, ∀ x ∈ cl, S x = v := by
  obtain _ | ⟨x, l⟩ := cl
  · simp [classOk] at h
  · simp only [classOk, Bool.and_eq_true, decide_eq_true_eq, List.contains_iff_mem, List.all_eq_true,
      beq_iff_eq] at h
    obtain ⟨⟨⟨⟨hs, hst⟩, hl⟩, hv⟩, ha⟩ := h
    refine ⟨⟨hs, hst⟩, by simp; omega, S x, hv, fun y hy => ?_⟩
    rcases List.mem_cons.1 hy with rfl | hy
    · rfl
    · exact ha y hy

/-- the check at the node of `classOfT` for code point `p.1` with class `p.2`: a class is examined once,
at its least member; the nodes of the other members refer to that node -/
def nodeOk (p : Nat × List Nat) : Bool :=
  p.2.contains p.1 && match p.2 with
    | [] => false
    | x :: _ =>
      if p.1 = x then classOk simpleFold scf p.2 && p.2.all (Gpc.Ucd.classOfT.find · == some p.2)
      else Gpc.Ucd.classOfT.find x == some p.2

/-- Kernel evaluation at the 2,878 nodes of `classOfT`, one per code point that has case variants (about
10,000 tree lookups).  At the least member of each of the 1,424 classes: `gp_u32_simple_fold` walks the
class in increasing cyclic order, it has at most 9 members, all have the same UCD folding, which is a
member, and every member's node carries this class.  Any other node carries the class of the node of
its least member. -/
theorem nodes_ok : Gpc.Ucd.classOfT.toList.all nodeOk = true := by decide +kernel

/-- every code point that `t` moves has a class -/
def covered (t : T) : Bool :=
  t.toList.all fun e => (List.range' e.lo (e.hi + 1 - e.lo)).all fun c => (Gpc.Ucd.classOfT.find c).isSome

/-- the 2,878 code points that `gp_u32_simple_fold` moves, and the 1,454 that the UCD folding moves -/
theorem fold_covered : covered implFoldT = true := by decide +kernel
theorem scf_covered : covered Gpc.Ucd.scfT = true := by decide +kernel

theorem fixed_of_covered {t : T} (hcov : covered t = true) {c : Nat} (h : Gpc.Ucd.classOfT.find c = none) :
    t.apply c = c := by
  refine Decidable.byContradiction fun hne => ?_
  obtain ⟨e, he, h1, h2⟩ := T.apply_ne t c hne
  have := List.all_eq_true.1 (List.all_eq_true.1 hcov e he) c (by rw [List.mem_range'_1]; omega)
  rw [h] at this; simp at this

theorem in_class {c : Nat} {cl : List Nat} (h : Gpc.Ucd.classOfT.find c = some cl) :
    c ∈ cl ∧ classOk simpleFold scf cl = true ∧ ∀ x ∈ cl, Gpc.Ucd.classOfT.find x = some cl := by
  have node : ∀ {c}, Gpc.Ucd.classOfT.find c = some cl → nodeOk (c, cl) = true :=
    fun h => List.all_eq_true.1 nodes_ok _ (CT.find_mem _ _ _ h)
  have hn := node h
  obtain _ | ⟨x, l⟩ := cl
  · simp [nodeOk] at hn
  simp only [nodeOk, Bool.and_eq_true, List.contains_iff_mem] at hn
  refine ⟨hn.1, ?_⟩
  have hx : nodeOk (x, x :: l) = true := by
    by_cases e : c = x
    · exact e ▸ node h
    · rw [if_neg e, beq_iff_eq] at hn; exact node hn.2
  -- at its least member the node says: the class is in order, and every member's node carries it
  simp only [nodeOk, if_true, Bool.and_eq_true, List.all_eq_true, beq_iff_eq] at hx
  exact hx.2

/-- The classes partition the code points; each is an orbit of `gp_u32_simple_fold` in increasing cyclic
order, short enough for the walk, and a fibre of the UCD folding that contains its folding. -/
theorem cls_spec (c : Nat) :
    c ∈ cls c ∧ (∀ x ∈ cls c, cls x = cls c) ∧ cyclic simpleFold (cls c) ∧ (cls c).length ≤ 9 ∧
      ∃ v ∈ cls c, ∀ x ∈ cls c, scf x = v := by
  cases h : Gpc.Ucd.classOfT.find c with
  | none =>
    -- a code point without case variants is alone in its class, and neither folding moves it
    have e : cls c = [c] := by rw [cls, h]; rfl
    have hf : simpleFold c = c := fixed_of_covered fold_covered h
    have hs : scf c = c := fixed_of_covered scf_covered h
    rw [e]
    refine ⟨List.mem_singleton_self c, fun x hx => ?_, ⟨List.pairwise_singleton _ _, ?_⟩, Nat.succ_le_succ (Nat.zero_le 8),
      c, List.mem_singleton_self c, fun x hx => ?_⟩
    · rw [List.mem_singleton.1 hx, e]
    · rw [steps, hf, beq_self_eq_true]
    · rw [List.mem_singleton.1 hx, hs]
  | some cl =>
    have e : cls c = cl := by rw [cls, h]; rfl
    obtain ⟨hm, hok, hcl⟩ := in_class h
    rw [e]
    exact ⟨hm, fun x hx => by rw [cls, hcl x hx]; rfl, classOk_spec hok⟩

theorem scf_eq_iff (c1 c2 : Nat) : scf c1 = scf c2 ↔ c2 ∈ cls c1 := by
  obtain ⟨h1, p1, -, -, v, hv, hs1⟩ := cls_spec c1
  constructor
  · intro e
    obtain ⟨h2, p2, -, -, w, hw, hs2⟩ := cls_spec c2
    -- the common folding lies in both classes
    have : v = w := by rw [← hs1 c1 h1, e, hs2 c2 h2]
    rw [← p1 v hv, this, p2 w hw]; exact h2
  · intro hm; rw [hs1 c1 h1, hs1 c2 hm]

theorem walk_iff (a b : Nat) (hab : a < b) :
    walk simpleFold a b 8 (simpleFold a) = true ↔ b ∈ cls a := by
  obtain ⟨h, -, hc, hl, -⟩ := cls_spec a
  exact walk_cyclic hc h hab hl

/-- the ASCII shortcut of `gp_str_equal_case`: below 0x80 the only larger class mate of a code point is
the lowercase form of a capital letter -/
theorem ascii_classes : (List.range 128).all (fun a =>
    (cls a).filter (fun b => decide (a < b) && decide (b < 128)) == if 65 ≤ a ∧ a ≤ 90 then [a + 32] else []) = true := by
  decide +kernel

theorem equalCp_comm (F : Nat → Nat) (c1 c2 : Nat) : equalCp F c1 c2 = equalCp F c2 c1 := by
  simp only [equalCp, Nat.min_comm c1 c2, Nat.max_comm c1 c2, eq_comm (a := c1)]

theorem equal_cp_iff (c1 c2 : Nat) : equalCp simpleFold c1 c2 = true ↔ scf c1 = scf c2 := by
  have key : ∀ a b, a < b → (equalCp simpleFold a b = true ↔ scf a = scf b) := by
    intro a b hab
    rw [scf_eq_iff]
    simp only [equalCp, Nat.ne_of_lt hab, if_false, Nat.min_eq_left (Nat.le_of_lt hab), Nat.max_eq_right (Nat.le_of_lt hab)]
    by_cases hb : b < 0x80
    · have := List.all_eq_true.1 ascii_classes a (by rw [List.mem_range]; omega)
      have hm : b ∈ (cls a).filter (fun b => decide (a < b) && decide (b < 128)) ↔ b ∈ cls a := by
        simp [List.mem_filter, hab, hb]
      rw [if_pos hb, ← hm, beq_iff_eq.1 this]
      -- both sides say: `a` is a capital letter and `b = a + 32`
      split <;> simp [*]
    · rw [if_neg hb]; exact walk_iff a b hab
  rcases Nat.lt_trichotomy c1 c2 with h | rfl | h
  · exact key c1 c2 h
  · simp [equalCp]
  · rw [equalCp_comm, eq_comm (a := scf c1)]; exact key c2 c1 h

theorem equalCpList_iff (l1 l2 : List Nat) :
    equalCpList simpleFold l1 l2 = true ↔ l1.map scf = l2.map scf := by
  induction l1 generalizing l2 with
  | nil => cases l2 <;> simp [equalCpList]
  | cons x xs ih =>
    cases l2 with
    | nil => simp [equalCpList]
    | cons y ys => simp [equalCpList, equal_cp_iff, ih]

end Gpc.CaseMap
