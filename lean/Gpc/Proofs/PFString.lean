import Gpc.Model.PFString
import Gpc.Spec.Printf
import Gpc.Proofs.List
/-! The bounded output string (C10).  First the digit loops of the integer writers as positional notation (`natDigits`);
then `Agrees` ties a destination to the unbounded output (`Holds`: without the length), and `Appends f t` says that the
helper `f` stays inside the destination and appends `t`. -/
namespace Gpc.Printf

theorem digit_ne (b : UInt8) (h : 48 ≤ b.toNat ∧ b.toNat ≤ 57) (c : UInt8) (hc : c.toNat < 48 ∨ 57 < c.toNat) :
    b ≠ c := by
  intro e; subst e; omega

theorem digitChar_eq (b : Nat) (upper : Bool) (d : Nat) : PF.digitChar b upper d = digitChar upper d := rfl

theorem natDigits_of_lt {base x : Nat} (upper : Bool) (h : x < base) :
    natDigits base upper x = [digitChar upper x] := by
  rw [natDigits, dif_pos (.inl h)]

theorem natDigits_of_le {base x : Nat} (upper : Bool) (hb : 2 ≤ base) (h : base ≤ x) :
    natDigits base upper x = natDigits base upper (x / base) ++ [digitChar upper (x % base)] := by
  rw [natDigits, dif_neg (by omega)]

theorem natDigits_zero (base : Nat) (upper : Bool) : natDigits base upper 0 = [48] := by
  rw [natDigits, dif_pos (by omega)]; rfl

theorem natDigits_ne_nil (base : Nat) (upper : Bool) (x : Nat) : natDigits base upper x ≠ [] := by
  rw [natDigits]; split <;> simp

theorem revDigits_eq (base : Nat) (upper : Bool) (hb : 2 ≤ base) :
    ∀ (fuel x : Nat), 1 ≤ fuel → x < base ^ fuel →
      (PF.revDigits base upper fuel x).reverse = natDigits base upper x := by
  intro fuel
  induction fuel with
  | zero => intro x h; omega
  | succ f ih =>
    intro x _ hx
    unfold PF.revDigits
    simp only
    split
    · rename_i h0
      have hlt : x < base := (Nat.div_eq_zero_iff.1 h0).resolve_left (by omega)
      rw [natDigits_of_lt upper hlt, Nat.mod_eq_of_lt hlt]; rfl
    · rename_i h0
      have hge : base ≤ x := Nat.le_of_not_lt fun h => h0 (Nat.div_eq_zero_iff.2 (Or.inr h))
      have hf : 1 ≤ f := Nat.pos_of_ne_zero fun h => by subst h; rw [Nat.pow_one] at hx; omega
      have hx2 : x / base < base ^ f := by
        rw [Nat.div_lt_iff_lt_mul (by omega)]
        rw [Nat.pow_succ] at hx; exact hx
      rw [natDigits_of_le upper hb hge, List.reverse_cons, ih (x / base) hf hx2]; rfl

theorem digits_eq (base : Nat) (upper : Bool) (x : Nat) (hb : 2 ≤ base) (hx : x < base ^ 64) :
    PF.digits base upper x = natDigits base upper x :=
  revDigits_eq base upper hb 64 x (by omega) hx

theorem digitChar_ne_zero : ∀ (upper : Bool) (x : Nat), x < 16 → 0 < x → digitChar upper x ≠ 48 := by decide

theorem natDigits_head (base : Nat) (upper : Bool) (hb : 2 ≤ base) (hb16 : base ≤ 16) :
    ∀ x, 0 < x → (natDigits base upper x).head? ≠ some 48 := by
  intro x hx
  fun_induction natDigits base upper x with
  | case1 x h =>
    simp only [List.head?_cons, ne_eq, Option.some.injEq]
    exact digitChar_ne_zero upper x (by omega) hx
  | case2 x h ih =>
    -- the leading digit is that of `x / base`
    obtain ⟨a, t, e⟩ := List.exists_cons_of_ne_nil (natDigits_ne_nil base upper (x / base))
    rw [e] at ih ⊢
    exact ih (Nat.div_pos (by omega) (by omega))

theorem revDigits_length_le (base : Nat) (upper : Bool) (fuel x : Nat) :
    (PF.revDigits base upper fuel x).length ≤ fuel := by
  induction fuel generalizing x with
  | zero => exact Nat.le_refl 0
  | succ f ih =>
    unfold PF.revDigits
    simp only
    split
    · exact Nat.succ_le_succ (Nat.zero_le f)
    · exact Nat.succ_le_succ (ih _)

/-- `k` rounds of the digit loop yield every digit of an `x < base ^ k`, one a round -/
theorem natDigits_length_le (base : Nat) (upper : Bool) (hb : 2 ≤ base) (k x : Nat) (hk : 1 ≤ k) (hx : x < base ^ k) :
    (natDigits base upper x).length ≤ k := by
  rw [← revDigits_eq base upper hb k x hk hx, List.length_reverse]
  exact revDigits_length_le base upper k x

end Gpc.Printf

namespace Gpc.PF
open Gpc.Printf (natDigits digits_eq natDigits_length_le)

theorem wr_some (d : Bytes) (off : Nat) (src : Bytes) (h : src.length = 0 ∨ off + src.length ≤ d.length) :
    ∃ d', wr d off src = some d' ∧ d'.length = d.length ∧
      ∀ i, d'[i]? = if off ≤ i ∧ i < off + src.length then src[i - off]? else d[i]? := by
  by_cases h0 : src.length = 0
  · exact ⟨d, by simp [wr, h0], rfl, fun i => by rw [if_neg (by omega)]⟩
  · refine ⟨d.take off ++ src ++ d.drop (off + src.length), by simp [wr, h0]; omega, by simp; omega, fun i => ?_⟩
    rw [getElem?_splice, List.length_take, Nat.min_eq_left (by omega), List.getElem?_take, List.getElem?_drop]
    split
    · rw [if_neg (by omega)]
    · split
      · rw [if_pos (by omega)]
      · rw [if_neg (by omega)]; congr 1; omega

/-- `h` bounds the read side only; the write side is what `wr` checks -/
theorem mv_eq_wr (d : Bytes) (dst src n : Nat) (h : n = 0 ∨ src + n ≤ d.length) :
    mv d dst src n = wr d dst ((d.drop src).take n) := by
  have hl : ((d.drop src).take n).length = n := length_take_drop (by omega)
  simp only [mv, wr, hl]
  by_cases h0 : n = 0
  · simp [h0]
  · have : src + n ≤ d.length := by omega
    simp [this]

theorem mv_some (d : Bytes) (dst src n : Nat) (h : n = 0 ∨ (dst + n ≤ d.length ∧ src + n ≤ d.length)) :
    ∃ d', mv d dst src n = some d' ∧ d'.length = d.length ∧
      ∀ i, d'[i]? = if dst ≤ i ∧ i < dst + n then d[src + (i - dst)]? else d[i]? := by
  have hl : ((d.drop src).take n).length = n := length_take_drop (by omega)
  obtain ⟨d', e, l, g⟩ := wr_some d dst ((d.drop src).take n) (by omega)
  refine ⟨d', by rw [mv_eq_wr d dst src n (by omega)]; exact e, l, fun i => ?_⟩
  rw [g i, hl, List.getElem?_take, List.getElem?_drop]
  split
  · rw [if_pos (by omega)]
  · rfl

/-- the destination holds the first `capacity` bytes of the unbounded output `full`, and `length` is its length -/
def Agrees (p : PF) (full : Bytes) : Prop :=
  p.length = full.length ∧ ∀ i, i < p.cap → i < full.length → p.data[i]? = full[i]?

/-- `Agrees` without the length: `pf_write_leading_zeroes` runs while `length` does not count the digits yet -/
def Holds (d t : Bytes) : Prop := ∀ i, i < d.length → i < t.length → d[i]? = t[i]?

theorem agrees_iff {p : PF} {full : Bytes} : Agrees p full ↔ p.length = full.length ∧ Holds p.data full := Iff.rfl

theorem Agrees.nil (d : Bytes) : Agrees ⟨d, 0⟩ [] := ⟨rfl, fun _ _ h => absurd h (Nat.not_lt_zero _)⟩

theorem holds_iff_take {d t : Bytes} : Holds d t ↔ d.take t.length = t.take d.length := by
  constructor
  · intro h
    apply List.ext_getElem?
    intro i
    rw [List.getElem?_take, List.getElem?_take]
    by_cases hi : i < t.length
    · rw [if_pos hi]
      split
      · exact h i ‹_› hi
      · exact List.getElem?_eq_none (by omega)
    · rw [if_neg hi]
      split
      · exact (List.getElem?_eq_none (by omega)).symm
      · rfl
  · intro h i hd ht
    have := congrArg (·[i]?) h
    simpa only [List.getElem?_take, if_pos hd, if_pos ht] using this

theorem Agrees.take {p : PF} {full : Bytes} (h : Agrees p full) :
    p.data.take (min full.length p.cap) = full.take p.cap := by
  rw [PF.cap, ← List.take_eq_take_min]; exact holds_iff_take.1 h.2

theorem capLeft_eq (p : PF) : capLeft p = p.cap - p.length := by
  unfold capLeft; split <;> omega

theorem Agrees.wr_end {p : PF} {full : Bytes} (h : Agrees p full) (s : Bytes) :
    ∃ d', wr p.data p.length (s.take (capLeft p)) = some d' ∧ d'.length = p.cap ∧
      Agrees ⟨d', p.length + s.length⟩ (full ++ s) := by
  have hc : capLeft p = p.data.length - full.length := by rw [capLeft_eq, h.1]; rfl
  obtain ⟨d', e, l, g⟩ := wr_some p.data p.length (s.take (capLeft p)) (by rw [List.length_take, h.1]; omega)
  refine ⟨d', e, l, by simp [h.1], fun i hi1 hi2 => ?_⟩
  simp only [PF.cap, l, List.length_append] at hi1 hi2
  rw [g i, List.length_take, List.getElem?_take, List.getElem?_append, h.1]
  by_cases c : i < full.length
  · rw [if_neg (by omega), if_pos c]; exact h.2 i hi1 c
  · rw [if_pos (by omega), if_pos (by omega), if_neg c]

/-- for the terminators, which are not text -/
theorem Agrees.wr_above {p : PF} {full : Bytes} (h : Agrees p full) (off : Nat) (s : Bytes) (ho : p.length ≤ off)
    (hs : off + s.length ≤ p.cap) :
    ∃ d', wr p.data off s = some d' ∧ d'.length = p.cap ∧ Agrees ⟨d', p.length⟩ full := by
  obtain ⟨d', e, l, g⟩ := wr_some p.data off s (Or.inr hs)
  refine ⟨d', e, l, h.1, fun i hi1 hi2 => ?_⟩
  rw [g i, if_neg (by have := h.1; omega)]
  exact h.2 i (by simpa only [PF.cap, l] using hi1) hi2

/-- on every destination `f` writes inside it (no checked write fails), keeps the capacity and appends `t` to the
unbounded output; it answers the string inside `wrap`: `some` for the front ends, whose `some none` is rejected
input, `(·, md)` for the writers that report what they wrote -/
def AppendsAs {β : Type} (wrap : PF → β) (f : PF → Option β) (t : Bytes) : Prop :=
  ∀ p full, Agrees p full → ∃ p', f p = some (wrap p') ∧ p'.cap = p.cap ∧ Agrees p' (full ++ t)

/-- the helpers that answer the string itself -/
def Appends (f : PF → Option PF) (t : Bytes) : Prop := AppendsAs (·) f t

theorem AppendsAs.nil {β : Type} (wrap : PF → β) : AppendsAs wrap (fun p => some (wrap p)) [] :=
  fun p full h => ⟨p, rfl, rfl, by rwa [List.append_nil]⟩

theorem AppendsAs.bind {β : Type} {wrap : PF → β} {f : PF → Option PF} {g : PF → Option β} {s t : Bytes}
    (hf : AppendsAs (·) f s) (hg : AppendsAs wrap g t) : AppendsAs wrap (fun p => (f p).bind g) (s ++ t) := fun p full h => by
  obtain ⟨p1, e1, c1, a1⟩ := hf p full h
  obtain ⟨p2, e2, c2, a2⟩ := hg p1 _ a1
  exact ⟨p2, by simp only [e1]; exact e2, c2.trans c1, by rwa [List.append_assoc] at a2⟩

theorem AppendsAs.map {f : PF → Option PF} {t : Bytes} (hf : AppendsAs (·) f t) {β : Type} (wrap : PF → β) :
    AppendsAs wrap (fun p => (f p).map wrap) t := fun p full h => by
  obtain ⟨p', e, c, a⟩ := hf p full h
  exact ⟨p', congrArg (Option.map wrap) e, c, a⟩

theorem AppendsAs.ite {β : Type} {wrap : PF → β} {c : Prop} [Decidable c] {f g : PF → Option β} {s t : Bytes}
    (hf : AppendsAs wrap f s) (hg : AppendsAs wrap g t) :
    AppendsAs wrap (fun p => if c then f p else g p) (if c then s else t) := by
  split <;> assumption

theorem AppendsAs.text {β : Type} {wrap : PF → β} {f : PF → Option β} {s t : Bytes} (hf : AppendsAs wrap f s)
    (e : s = t) : AppendsAs wrap f t := e ▸ hf

theorem concat_ok (src : Bytes) : Appends (concat · src) src := fun p full h => by
  obtain ⟨d', e, l, a⟩ := h.wr_end src
  refine ⟨⟨d', _⟩, ?_, l, a⟩
  simp only [concat, limit, ← List.take_eq_take_min, e]; rfl

theorem pad_ok (c : UInt8) (n : Nat) : Appends (pad · c n) (List.replicate n c) := fun p full h => by
  obtain ⟨d', e, l, a⟩ := h.wr_end (List.replicate n c)
  refine ⟨⟨d', _⟩, ?_, l, by simpa using a⟩
  rw [List.take_replicate] at e
  simp only [pad, limit, e]; rfl

theorem push_ok (c : UInt8) : Appends (push · c) [c] := fun p full h => by
  obtain ⟨d', e, l, a⟩ := h.wr_end [c]
  refine ⟨⟨d', _⟩, ?_, l, a⟩
  by_cases h0 : capLeft p = 0
  · simp [h0, wr] at e; simp [push, limit, h0, e]
  · rw [List.take_of_length_le (by simp; omega)] at e
    have : min (capLeft p) 1 = 1 := by omega
    simp [push, limit, this, e]

theorem reverseCopy_ok {p : PF} {full : Bytes} (h : Agrees p full) (ds : Bytes) :
    ∃ d', reverseCopy p.data p.length ds (capLeft p) = some d' ∧ d'.length = p.cap ∧
      Agrees ⟨d', p.length + ds.length⟩ (full ++ ds) := by
  obtain ⟨d1, e1, l1, a1⟩ := h.wr_end ds
  simp only [reverseCopy, ← List.take_eq_take_min, e1, Option.bind_eq_bind, Option.bind_some]
  split
  · have hc := capLeft_eq p
    obtain ⟨d2, e2, l2, a2⟩ := a1.wr_above (p.length + ds.length) [0] (Nat.le_refl _)
      (by simp only [PF.cap, l1, List.length_singleton] at *; omega)
    exact ⟨d2, e2, l2.trans l1, a2⟩
  · exact ⟨d1, rfl, l1, a1⟩

/-- the writer may leave a terminator after the digits, which is not text -/
theorem utoaAt_ok {p : PF} {full : Bytes} (h : Agrees p full) (base : Nat) (upper : Bool) (x : Nat) :
    ∃ d', utoaAt p.data p.length (capLeft p) base upper x = some (d', (digits base upper x).length) ∧
      d'.length = p.cap ∧ Agrees ⟨d', p.length + (digits base upper x).length⟩ (full ++ digits base upper x) := by
  unfold utoaAt
  simp only
  split
  · rename_i hc
    -- the direct path writes all digits: at most 9, and at least 10 bytes are left
    have hl : (digits 10 upper x).length ≤ 9 := by
      rw [digits_eq 10 upper x (by omega) (Nat.lt_trans hc.2.2 (by decide))]
      exact natDigits_length_le 10 upper (by omega) 9 x (by omega) hc.2.2
    obtain ⟨d', e, l, a⟩ := h.wr_end (digits base upper x)
    rw [hc.1] at e a ⊢
    rw [List.take_of_length_le (by omega)] at e
    exact ⟨d', by simp [e], l, a⟩
  · obtain ⟨d', e, l, a⟩ := reverseCopy_ok h (digits base upper x)
    exact ⟨d', by simp [e], l, a⟩

/-- the count `pf_insert_pad` reaches through `overflowed`: the tail, or as much of it as stays inside -/
theorem insertPadMove_eq (p : PF) (i n : Nat) : insertPadMove p i n =
    if i + n < p.cap then mv p.data (i + n) i (min (min p.length p.cap - i) (p.cap - i - n)) else some p.data := by
  have (len room : Nat) : len - (len + n - min room (len + n)) = min len (room - n) := by omega
  simp only [insertPadMove, this]

theorem insertPadFill_eq (p : PF) (d : Bytes) (i : Nat) (c : UInt8) (n : Nat) :
    insertPadFill p d i c n = wr d i (List.replicate (min n (p.cap - i)) c) := by
  rw [insertPadFill, Nat.min_comm (p.cap - i), ← Nat.min_assoc, Nat.min_eq_left (Nat.le_add_left n _)]

/-- the length may already count bytes beyond the text `a ++ b` (`pf_write_leading_zeroes` for `%#o`) -/
theorem insertPad_ok (p : PF) (a b : Bytes) (c : UInt8) (n : Nat) (hl : (a ++ b).length ≤ p.length)
    (hg : Holds p.data (a ++ b)) :
    ∃ p', insertPad p a.length c n = some p' ∧ p'.cap = p.cap ∧ p'.length = p.length + n ∧
      Holds p'.data (a ++ List.replicate n c ++ b) := by
  have hcap : p.cap = p.data.length := rfl
  unfold Holds at *
  simp only [List.length_append, List.length_replicate] at *
  unfold insertPad
  split
  · refine ⟨_, rfl, rfl, rfl, fun j (hj1 : j < p.data.length) hj2 => ?_⟩
    rw [hg j hj1 (by omega), List.append_assoc, List.getElem?_append_left (by omega), List.getElem?_append_left (by omega)]
  · rename_i hi
    rw [insertPadMove_eq]
    simp only [insertPadFill_eq]
    -- `m` bytes move: they fit, and they reach as far as the text or the destination does
    generalize hm : min (min p.length p.cap - a.length) (p.cap - a.length - n) = m
    have ha : a.length ≤ p.cap := by omega
    have hmR : m ≤ p.cap - a.length - n := hm ▸ Nat.min_le_right _ _
    have hmL : ∀ j, j < p.cap → j < a.length + n + b.length → j < a.length + n + m := by
      intro j hj1 hj2
      rcases Nat.le_total p.length p.cap with hpc | hpc
      · rw [Nat.min_eq_left hpc] at hm; omega
      · rw [Nat.min_eq_right hpc] at hm; omega
    clear hm hi
    -- nothing moves when the pad alone reaches the end of the destination
    have hmv : (if a.length + n < p.cap then mv p.data (a.length + n) a.length m else some p.data) =
        mv p.data (a.length + n) a.length m := by
      split
      · rfl
      · rw [show m = 0 by omega]; rfl
    obtain ⟨d1, e1, l1, g1⟩ := mv_some p.data (a.length + n) a.length m (by omega)
    obtain ⟨d2, e2, l2, g2⟩ := wr_some d1 a.length (List.replicate (min n (p.cap - a.length)) c)
      (Or.inr (by rw [List.length_replicate]; omega))
    refine ⟨⟨d2, p.length + n⟩, by rw [hmv, e1]; simp only [Option.bind_eq_bind, Option.bind_some, e2]; rfl,
      l2.trans l1, rfl, fun j (hj1 : j < d2.length) hj2 => ?_⟩
    rw [l2, l1] at hj1
    clear hmR hmv l1 l2 e1 e2
    rw [g2 j, g1 j, List.length_replicate, getElem?_splice, List.length_replicate, List.getElem?_replicate, List.getElem?_replicate]
    by_cases a1 : j < a.length
    · rw [if_neg (by omega), if_neg (by omega), if_pos a1, hg j hj1 (by omega), List.getElem?_append_left a1]
    · by_cases a2 : j < a.length + n
      · rw [if_pos (by omega), if_pos (by omega), if_neg a1, if_pos a2, if_pos (by omega)]
      · have := hmL j hj1 hj2
        rw [if_neg (by omega), if_pos (by omega), if_neg a1, if_neg a2, hg _ (by omega) (by omega),
          List.getElem?_append_right (by omega)]
        congr 1; omega

theorem Agrees.insertPad {p : PF} {a b : Bytes} (h : Agrees p (a ++ b)) (c : UInt8) (n : Nat) :
    ∃ p', insertPad p a.length c n = some p' ∧ p'.cap = p.cap ∧ Agrees p' (a ++ List.replicate n c ++ b) := by
  obtain ⟨p', e, hc, l, g⟩ := insertPad_ok p a b c n (Nat.le_of_eq h.1.symm) (agrees_iff.1 h).2
  refine ⟨p', e, hc, agrees_iff.2 ⟨?_, g⟩⟩
  simp only [l, h.1, List.length_append, List.length_replicate]; omega

/-- number of leading zeroes the precision asks for -/
def zeroFill (prec : Option Nat) (written : Nat) : Nat :=
  match prec with
  | some w => if w ≤ written then 0 else w - written
  | none => 0

theorem zeroFill_some (w n : Nat) : zeroFill (some w) n = w - n := by
  simp only [zeroFill]; split <;> omega

/-- `pf_write_leading_zeroes` is `pf_insert_pad` at the start of the digits, once the length counts them -/
theorem leadingZeroes_some (p : PF) (written w : Nat) :
    leadingZeroes p written (some w) =
      insertPad { p with length := p.length + written } p.length 48 (zeroFill (some w) written) := by
  obtain ⟨data, l⟩ := p
  simp only [leadingZeroes, insertPad, insertPadMove_eq, insertPadFill_eq, limit, capLeft_eq, PF.cap, zeroFill]
  generalize (if w ≤ written then 0 else w - written) = n
  -- the count of `insertPadMove_eq` on the lengthened string, `min (min (l + written) cap - l) (cap - l - n)`,
  -- is `min written (cap - l - n)`, that of `pf_write_leading_zeroes`
  rw [← Nat.sub_min_sub_right, Nat.add_sub_cancel_left, Nat.min_assoc, Nat.min_eq_right (Nat.sub_le _ n),
    Nat.min_comm n, Nat.add_assoc]
  by_cases h1 : l + n < data.length
  · have h2 : ¬ l > min (l + written) data.length := by omega
    have h3 : ¬ n ≥ data.length - l := by omega
    simp only [h1, h2, h3, ↓reduceIte, Nat.sub_sub]
  · have h3 : n ≥ data.length - l := by omega
    have h4 : min (data.length - l) n = data.length - l := by omega
    simp only [h1, h3, h4, ↓reduceIte, mv]
    split
    · have : data.length - l = 0 := by omega
      simp [this, wr]
    · rfl

/-- the digits `b` sit behind the text `a` already, uncounted; `written` may count more than them (`%#o`) -/
theorem leadingZeroes_ok (p : PF) (a b : Bytes) (written : Nat) (prec : Option Nat) (ha : p.length = a.length)
    (hb : b.length ≤ written) (hg : Holds p.data (a ++ b)) :
    ∃ p', leadingZeroes p written prec = some p' ∧ p'.cap = p.cap ∧
      p'.length = p.length + written + zeroFill prec written ∧
      Holds p'.data (a ++ List.replicate (zeroFill prec written) 48 ++ b) := by
  cases prec with
  | none => exact ⟨_, rfl, rfl, rfl, by simpa [zeroFill] using hg⟩
  | some w =>
    have := insertPad_ok { p with length := p.length + written } a b 48 (zeroFill (some w) written)
      (by simp only [List.length_append]; omega) hg
    rwa [← ha, ← leadingZeroes_some] at this

theorem writeUInt_ok (base : Nat) (upper : Bool) (prec : Option Nat) (x : Nat) :
    Appends (writeUInt · base upper prec x)
      (List.replicate (zeroFill prec (digits base upper x).length) 48 ++ digits base upper x) := fun p full h => by
  obtain ⟨d', e, l, a⟩ := utoaAt_ok h base upper x
  obtain ⟨p', e', c', l', g'⟩ := leadingZeroes_ok ⟨d', p.length⟩ full _ _ prec h.1 (Nat.le_refl _) (agrees_iff.1 a).2
  rw [List.append_assoc] at g'
  refine ⟨p', by simp [writeUInt, e, e'], c'.trans l, agrees_iff.2 ⟨?_, g'⟩⟩
  simp only [l', h.1, List.length_append, List.length_replicate]; omega

theorem writeOctAlt_ok (prec : Option Nat) (x : Nat) :
    Appends (writeOctAlt · prec x)
      ([48] ++ List.replicate (zeroFill prec (1 + (digits 8 false x).length)) 48 ++ digits 8 false x) := fun p full h => by
  obtain ⟨p1, e1, c1, a1⟩ := push_ok 48 p full h
  obtain ⟨d', e, l, a⟩ := utoaAt_ok a1 8 false x
  obtain ⟨p2, e2, c2, l2, g2⟩ := leadingZeroes_ok ⟨d', p1.length⟩ (full ++ [48]) _ (1 + (digits 8 false x).length) prec a1.1
    (Nat.le_add_left _ _) (agrees_iff.1 a).2
  rw [List.append_assoc, List.append_assoc] at g2
  refine ⟨{ p2 with length := p2.length - 1 }, by simp [writeOctAlt, e1, e, e2], c2.trans (l.trans c1),
    agrees_iff.2 ⟨?_, g2⟩⟩
  simp only [l2, a1.1, List.length_append, List.length_replicate, List.length_singleton]; omega

theorem lastDigits_length (count x : Nat) : (lastDigits count x).length = count := by simp [lastDigits]

theorem dDigits_length (m x : Nat) : (dDigits m x).length = m + 1 := by
  have hl := lastDigits_length m x
  unfold dDigits
  cases h : lastDigits m x with
  | nil => rw [h] at hl; rw [← hl]; rfl
  | cons d t => rw [h, List.length_cons] at hl; rw [← hl]; rfl

/-- the direct write of `pf_append_nine_digits` / `_c_digits` / `_d_digits` when the text fits is what `pf_concat` does -/
theorem direct_eq_concat (p : PF) (s : Bytes) {n : Nat} (hn : s.length = n) :
    (if capLeft p ≥ n then do let d ← wr p.data p.length s; pure ({ data := d, length := p.length + n } : PF)
     else concat p s) = concat p s := by
  subst hn
  split
  · have : limit p s.length = s.length := by simp [limit]; omega
    simp [concat, this]
  · rfl

theorem appendNine_eq (p : PF) (x : Nat) : appendNine p x = concat p (lastDigits 9 x) :=
  direct_eq_concat p _ (lastDigits_length 9 x)

theorem appendC_eq (p : PF) (c x : Nat) : appendC p c x = concat p (lastDigits c x) :=
  direct_eq_concat p _ (lastDigits_length c x)

theorem appendD_eq (p : PF) (m x : Nat) : appendD p m x = concat p (dDigits m x) :=
  direct_eq_concat p _ (dDigits_length m x)

theorem appendUtoa_ok (x : Nat) : Appends (appendUtoa · x) (digits 10 false x) := fun p full h => by
  simp only [appendUtoa]
  split
  · obtain ⟨d', e, l, a⟩ := utoaAt_ok h 10 false x
    exact ⟨⟨d', _⟩, by simp [e], l, a⟩
  · exact concat_ok _ p full h

theorem emit_ok (e : Emit) : Appends (emit · e) e.text := by
  cases e with
  | push c => exact push_ok c
  | pad c n => exact pad_ok c n
  | concat s => exact concat_ok s
  | utoa x => exact appendUtoa_ok x
  | nine x => simp only [emit, appendNine_eq]; exact concat_ok _
  | cdig c x => simp only [emit, appendC_eq]; exact concat_ok _
  | ddig m x => simp only [emit, appendD_eq]; exact concat_ok _

def planText (plan : List Emit) : Bytes := plan.flatMap Emit.text

theorem planText_cons (e : Emit) (es : List Emit) : planText (e :: es) = e.text ++ planText es := by
  simp [planText]

theorem planText_append (a b : List Emit) : planText (a ++ b) = planText a ++ planText b := by
  simp [planText]

theorem emitAll_ok (plan : List Emit) : Appends (emitAll · plan) (planText plan) := by
  induction plan with
  | nil => exact AppendsAs.nil (·)
  | cons e es ih => exact (emit_ok e).bind ih

theorem terminate_ok : Appends terminate [] := fun p full h => by
  rw [List.append_nil]
  unfold terminate
  split
  · rename_i hc
    obtain ⟨d', e, l, a⟩ := h.wr_above p.length [0] (Nat.le_refl _)
      (by rw [capLeft_eq] at hc; simp only [List.length_singleton]; omega)
    exact ⟨⟨d', _⟩, by simp [e], l, a⟩
  · exact ⟨p, rfl, rfl, h⟩

/-- a text continued in the room that is left: `w` holds the continuation and replaces what lies behind `full` -/
theorem Holds.window {d w full text : Bytes} (h : Holds d full) (a : Holds w text)
    (hw : w.length = d.length - min full.length d.length) :
    (d.take (min full.length d.length) ++ w).length = d.length ∧
      Holds (d.take (min full.length d.length) ++ w) (full ++ text) := by
  have hl : (d.take (min full.length d.length) ++ w).length = d.length := by
    rw [List.length_append, List.length_take, hw]; omega
  refine ⟨hl, ?_⟩
  rw [holds_iff_take] at *
  rw [hl, List.length_append]
  rcases Nat.le_total full.length d.length with c | c
  · rw [List.take_of_length_le c] at h
    rw [Nat.min_eq_left c] at hw ⊢
    rw [h, List.take_length_add_append, List.take_append, List.take_of_length_le c, a, hw]
  · rw [List.take_of_length_le c] at h
    rw [Nat.min_eq_right c, Nat.sub_self] at hw
    rw [Nat.min_eq_right c, List.take_length, List.eq_nil_of_length_eq_zero hw, List.append_nil,
      List.take_of_length_le (by omega), List.take_append_of_le_length c, ← h]

/-- the end of a run on a string of its own on the room that is left (`data + length`, `capacity - length` bytes):
the terminator goes in if it fits, and the window is spliced back (`pf_write_f`, embedded format strings) -/
theorem Agrees.run_window {p w : PF} {full text : Bytes} (h : Agrees p full) (a : Agrees w text)
    (hw : w.cap = (p.data.drop (min p.length p.cap)).length) :
    ∃ w', terminate w = some w' ∧
      PF.cap ⟨p.data.take (min p.length p.cap) ++ w'.data, p.length + w'.length⟩ = p.cap ∧
      Agrees ⟨p.data.take (min p.length p.cap) ++ w'.data, p.length + w'.length⟩ (full ++ text) := by
  obtain ⟨w', e, c, a'⟩ := terminate_ok w text a
  rw [List.append_nil] at a'
  rw [List.length_drop, h.1] at hw
  obtain ⟨hl, hh⟩ := Holds.window (text := text) h.2 a'.2 (c.trans hw)
  rw [← h.1] at hl hh
  exact ⟨w', e, hl, by simp [h.1, a'.1], hh⟩

theorem writeFloat_ok (plan : List Emit) : Appends (writeFloat · plan) (planText plan) := fun p full h => by
  obtain ⟨w1, e1, c1, a1⟩ := emitAll_ok plan _ [] (Agrees.nil (p.data.drop (min p.length p.cap)))
  rw [List.nil_append] at a1
  obtain ⟨w2, e2, hc, ha⟩ := h.run_window a1 c1
  exact ⟨_, by simp [writeFloat, e1, e2], hc, ha⟩

end Gpc.PF
