import Gpc.Model.Num
import Gpc.Model.Array
/-! Arithmetic behind C20: bit smearing, rounding up in wrapping arithmetic, the
`int32_t` / `uint32_t` casts of `gp_random_range`. -/
namespace Gpc.Num

/-- bit `i` of `x` is set iff some bit of `x0` in the window `[i, i+m)` is set -/
def Smeared (m x0 x : Nat) : Prop :=
  ∀ i, x.testBit i = true ↔ ∃ j, i ≤ j ∧ j < i + m ∧ x0.testBit j = true

theorem smeared_one (x : Nat) : Smeared 1 x x := by
  intro i; constructor
  · intro h; exact ⟨i, Nat.le_refl _, by omega, h⟩
  · rintro ⟨j, h1, h2, h3⟩
    have : j = i := by omega
    subst this; exact h3

theorem smeared_step {m x0 x : Nat} (h : Smeared m x0 x) : Smeared (2*m) x0 (x ||| (x >>> m)) := by
  intro i
  rw [Nat.testBit_or, Nat.testBit_shiftRight, Bool.or_eq_true, h i, h (m + i)]
  constructor
  · rintro (⟨j, a, b, c⟩ | ⟨j, a, b, c⟩)
    · exact ⟨j, a, by omega, c⟩
    · exact ⟨j, by omega, by omega, c⟩
  · rintro ⟨j, a, b, c⟩
    by_cases hj : j < i + m
    · exact Or.inl ⟨j, a, hj, c⟩
    · exact Or.inr ⟨j, by omega, by omega, c⟩

theorem smeared_eq {w x0 x : Nat} (h : Smeared w x0 x) (hx : x0 < 2^w) (h0 : x0 ≠ 0) :
    x = 2^(x0.log2 + 1) - 1 := by
  have hlog : x0.log2 < w := (Nat.log2_lt h0).2 hx
  apply Nat.eq_of_testBit_eq
  intro i
  rw [Nat.testBit_two_pow_sub_one, Bool.eq_iff_iff, h i, decide_eq_true_iff]
  constructor
  · rintro ⟨j, a, _, c⟩
    have := (Nat.le_log2 h0).2 (Nat.ge_two_pow_of_testBit c)
    omega
  · intro hi
    exact ⟨x0.log2, by omega, by omega, Nat.testBit_log2 h0⟩

theorem smear32_smeared (x : Nat) : Smeared 32 x (smear32 x) :=
  smeared_step (smeared_step (smeared_step (smeared_step (smeared_step (smeared_one x)))))

theorem smear64_smeared (x : Nat) : Smeared 64 x (smear64 x) :=
  smeared_step (smear32_smeared x)

theorem smear32_zero : smear32 0 = 0 := by decide
theorem smear64_zero : smear64 0 = 0 := by decide

theorem np2_of_smeared {w x s : Nat} (hs : Smeared w x s) (hx : x < 2^(w-1)) (hw : 0 < w) :
    (s + 1) % 2^w = Gpc.Arr.np2 x := by
  have hww : 2^w = 2 * 2^(w-1) := by rw [← Nat.pow_succ', Nat.succ_eq_add_one, Nat.sub_add_cancel hw]
  unfold Gpc.Arr.np2
  split
  · subst x
    obtain rfl : s = 0 := Nat.eq_of_testBit_eq fun i => by simpa using hs i
    exact Nat.mod_eq_of_lt (by omega)
  · rename_i h0
    have hp : 2^(x.log2+1) ≤ 2^(w-1) := Nat.pow_le_pow_right (by omega) ((Nat.log2_lt h0).2 hx)
    rw [smeared_eq hs (by omega) h0, Nat.sub_add_cancel (Nat.two_pow_pos _)]
    exact Nat.mod_eq_of_lt (by omega)

theorem np2_least (x : Nat) : ∃ k, Gpc.Arr.np2 x = 2^k ∧ x < 2^k ∧ (∀ j, x < 2^j → 2^k ≤ 2^j) := by
  unfold Gpc.Arr.np2
  split
  · exact ⟨0, rfl, by omega, fun j _ => Nat.one_le_two_pow⟩
  · rename_i h0
    exact ⟨x.log2 + 1, rfl, Nat.lt_log2_self, fun j hj => Nat.pow_le_pow_right (by omega) ((Nat.log2_lt h0).2 hj)⟩

/-- rounding up in wrapping arithmetic modulo `M`, for a boundary `b` that divides `M` -/
theorem round_arith {M x b : Nat} (hb : 0 < b) (hd : b ∣ M) (hx : x + b ≤ M) :
    ((x + (b - 1)) % M + M - (x + M - 1) % M % b) % M = b * ((x + b - 1) / b) := by
  obtain ⟨c, rfl⟩ := hd
  have hc : 0 < c := Nat.pos_of_ne_zero fun h => by simp [h] at hx; omega
  -- the low part of the wrapping `x - 1` is the remainder of `x + b - 1`, also when `x = 0`
  have e : (x + b * c - 1) % (b * c) % b = (x + b - 1) % b := by
    rw [Nat.mod_mul_right_mod, show x + b * c - 1 = x + b - 1 + b * (c - 1) by rw [Nat.mul_sub_one]; omega,
      Nat.add_mul_mod_self_left]
  have h1 := Nat.div_add_mod (x + b - 1) b
  have h2 := Nat.mod_lt (x + b - 1) hb
  rw [e, Nat.mod_eq_of_lt (show x + (b - 1) < b * c by omega),
    show x + (b - 1) + b * c - (x + b - 1) % b = b * ((x + b - 1) / b) + b * c by omega,
    Nat.add_mod_right, Nat.mod_eq_of_lt (by omega)]

theorem toUInt32_cast (i : Int) : (toUInt32 i : Int) = i % 2^32 := by
  unfold toUInt32; omega

theorem toInt32_toUInt32_add (m : Int) (x : Nat) (hm : -(2^31 : Int) ≤ m) (hx : m + x < (2^31 : Int)) :
    toInt32 (toUInt32 m + x) = m + x := by
  have := toUInt32_cast m
  unfold toInt32; omega

/-- the unsigned span `(uint32_t)b - (uint32_t)a + 1` is `b - a + 1` modulo `2^32` -/
theorem span_cast (a b : Int) :
    (((toUInt32 b + 2^32 - toUInt32 a + 1) % 2^32 : Nat) : Int) = (b - a + 1) % 2^32 := by
  have := toUInt32_cast a
  have := toUInt32_cast b
  omega

end Gpc.Num
