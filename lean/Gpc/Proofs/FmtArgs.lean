import Gpc.Proofs.FmtCount
/-! The formatter looks at exactly the first `argsNeeded` arguments. -/
namespace Gpc.Printf

/-- the value `pf_scan_format_string` gives a width or precision field: its literal, or for `*` the next
argument, fetched with `va_arg(int)` (`none` when the next argument is no `int`) -/
def fieldVal : Option Num → List Arg → Option (Option Int × List Arg)
  | none, args => some (none, args)
  | some (.lit n), args => some (some n, args)
  | some .star, .int raw :: rest => some (some (toInt32 raw), rest)
  | some .star, _ => none

theorem fieldVal_take (n : Option Num) (args : List Arg) (m : Nat) (hm : numStar n ≤ m) :
    fieldVal n (args.take m) = (fieldVal n args).map fun x => (x.1, x.2.take (m - numStar n)) := by
  match n, args, m with
  | none, _, _ | some (.lit _), _, _ => rfl
  | some .star, [], _ => simp [fieldVal]
  | some .star, a :: rest, m + 1 => cases a <;> simp [fieldVal, numStar]

/-- `resolve` in two stages, width then precision, each taking its `*` argument; a missing width counts as 0 -/
theorem resolve_eq (r : RawSpec) (args : List Arg) : resolve r args =
    (fieldVal r.width args).bind fun w => (fieldVal r.prec w.2).map fun p =>
      ({ flags := if w.1.getD 0 < 0 then { r.flags with dash := true } else r.flags, width := (w.1.getD 0).natAbs,
         prec := p.1.bind fun v => if v < 0 then none else some v.toNat, len := r.len, conv := r.conv }, p.2) := by
  -- once the width is a literal, `resolve` is its precision stage
  have prec (fl : Flags) (w : Nat) (a : List Arg) :
      resolve { r with flags := fl, width := some (.lit w) } a = (fieldVal r.prec a).map fun p =>
        ({ flags := fl, width := w, prec := p.1.bind fun v => if v < 0 then none else some v.toNat,
           len := r.len, conv := r.conv }, p.2) := by
    unfold resolve
    rcases r.prec with _ | n | _
    · rfl
    · simp [fieldVal]
    · rcases a with _ | ⟨x, rest⟩
      · rfl
      · cases x
        · simp only [fieldVal, Option.map_some, Option.bind_some]
          split <;> simp [*]
        all_goals rfl
  have width : resolve r args = (fieldVal r.width args).bind fun w =>
      resolve { r with flags := if w.1.getD 0 < 0 then { r.flags with dash := true } else r.flags,
                       width := some (.lit (w.1.getD 0).natAbs) } w.2 := by
    unfold resolve
    rcases r.width with _ | n | _
    · rfl
    · rfl
    · rcases args with _ | ⟨x, rest⟩
      · rfl
      · cases x
        · rename_i raw
          have : ¬ toInt32 raw < 0 → (toInt32 raw).toNat = (toInt32 raw).natAbs := by omega
          simp only [fieldVal, Option.bind_some, Option.getD_some]
          split <;> simp only [*, not_false_eq_true]
        all_goals rfl
  simp only [width, prec]

theorem resolve_take (r : RawSpec) (args : List Arg) (m : Nat) (hm : numStar r.width + numStar r.prec ≤ m) :
    resolve r (args.take m) =
      (resolve r args).map (fun x => (x.1, x.2.take (m - (numStar r.width + numStar r.prec)))) := by
  rw [resolve_eq, resolve_eq, fieldVal_take _ _ _ (by omega)]
  cases fieldVal r.width args with
  | none => rfl
  | some w =>
    simp only [Option.map_some, Option.bind_some, Option.map_map, Nat.sub_sub,
      fieldVal_take r.prec w.2 _ (by omega : numStar r.prec ≤ m - numStar r.width)]
    rfl

theorem resolve_conv (r : RawSpec) (args : List Arg) (s : Spec) (A : List Arg) (h : resolve r args = some (s, A)) :
    s.conv = r.conv := by
  simp only [resolve_eq, Option.bind_eq_some_iff, Option.map_eq_some_iff, Prod.mk.injEq] at h
  obtain ⟨_, _, _, _, rfl, _⟩ := h
  rfl

/-- with the argument list cut after `m ≥ argsNeeded` arguments the result (text, length or rejection) is that of
the full list -/
theorem vsnprintf_take (fuel : Nat) : ∀ (p : PF.PF) (fmt : Bytes) (args : List Arg) (k m : Nat),
    argsNeeded fuel fmt = some k → k ≤ m →
    vsnprintf fuel p fmt (args.take m) = vsnprintf fuel p fmt args := by
  induction fuel with
  | zero => intro p fmt args k m h; cases h
  | succ fuel ih =>
    intro p fmt args k m h hkm
    unfold vsnprintf
    cases PF.concat p (splitLiteral fmt).1 with
    | none => rfl
    | some p1 =>
      simp only
      rcases argsNeeded_succ h with ⟨hr, -⟩ | ⟨after, raw, rest, k', hr, hs, hk', hcase⟩
      · rw [hr]
      · simp only [hr, hs]
        -- the starred fields fit into the cut and leave room for what the rest needs, and for the
        -- conversion's own argument unless it is `%%`
        have hn : numStar raw.width + numStar raw.prec ≤ m ∧ k' ≤ m - (numStar raw.width + numStar raw.prec) ∧
            (raw.conv ≠ '%' → k' + 1 ≤ m - (numStar raw.width + numStar raw.prec)) := by
          rcases hcase with ⟨-, rfl, rfl⟩ | ⟨pre, c, -, -, -, hst, rfl⟩
          · exact ⟨Nat.zero_le _, hkm, fun hne => absurd rfl hne⟩
          · omega
        rw [resolve_take raw args m hn.1]
        cases hres : resolve raw args with
        | none => rfl
        | some sa =>
          obtain ⟨sp, A⟩ := sa
          simp only [Option.map_some]
          by_cases hpct : sp.conv = '%'
          · simp only [hpct, if_true]
            cases convert p1 sp none with
            | none => rfl
            | some p2 => exact ih p2 rest A k' _ hk' hn.2.1
          · simp only [hpct, if_false]
            have hm1 := hn.2.2 (resolve_conv raw args sp A hres ▸ hpct)
            obtain ⟨j, hj⟩ : ∃ j, m - (numStar raw.width + numStar raw.prec) = j + 1 := ⟨_, (Nat.sub_add_cancel (by omega)).symm⟩
            rw [hj]
            cases A with
            | nil => rfl
            | cons a A2 =>
              simp only [List.take_succ_cons]
              cases argFits sp.conv a with
              | false => rfl
              | true =>
                simp only [Bool.not_true, Bool.false_eq_true, if_false]
                cases convert p1 sp (some a) with
                | none => rfl
                | some p2 => exact ih p2 rest A2 k' j hk' (by omega)

/-- an embedded format string prints the same from its first `argsNeeded` objects, which is what `splitFmtArgs`
hands it (`countFmtSpecs_eq_argsNeeded`), as from all that follow -/
theorem writeFormat_take (p : PF.PF) (fmt : Bytes) (vals : List Arg) (k : Nat)
    (h : argsNeeded (fmt.length + 1) fmt = some k) :
    writeFormat p fmt (vals.take k) = writeFormat p fmt vals := by
  unfold writeFormat
  simp only
  rw [vsnprintf_take (fmt.length + 1) _ fmt vals k k h (Nat.le_refl k)]

theorem splitFmtArgs_exact (fmt : Bytes) (rest : List Obj) (k : Nat) (h : argsNeeded (fmt.length + 1) fmt = some k) :
    (splitFmtArgs fmt rest).1 = (rest.map (·.val)).take k ∧ (splitFmtArgs fmt rest).2 = rest.drop k := by
  unfold splitFmtArgs
  simp only
  rw [countFmtSpecs_eq_argsNeeded fmt _ k h]
  exact ⟨by rw [List.map_take], rfl⟩

end Gpc.Printf
