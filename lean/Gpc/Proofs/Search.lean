import Gpc.Model.Search
/-!
`OccursAt`; `First` / `Last`, the sound answer of a scan upwards / downwards, which is also complete
because the least (greatest) index with a property is unique.  In those terms: the `memmem`
contract, the byte comparison and the backward scan of `gp_bytes_find_last`.
-/
namespace Gpc.Search

/-- the needle occurs in the haystack at byte offset `i` -/
def OccursAt (h n : Bytes) (i : Nat) : Prop := n <+: h.drop i

instance (h n : Bytes) (i : Nat) : Decidable (OccursAt h n i) := by unfold OccursAt; infer_instance

theorem occursAt_cons_succ (a : UInt8) (h n : Bytes) (i : Nat) :
    OccursAt (a :: h) n (i + 1) ↔ OccursAt h n i := by simp [OccursAt]

theorem occursAt_zero (h n : Bytes) : OccursAt h n 0 ↔ n <+: h := by simp [OccursAt]

theorem occursAt_le_length (h n : Bytes) (i : Nat) (hn : n ≠ []) (ho : OccursAt h n i) :
    i + n.length ≤ h.length := by
  have := List.IsPrefix.length_le ho
  rw [List.length_drop] at this
  have := List.length_pos_iff.mpr hn
  omega

theorem occursAt_drop (h n : Bytes) (s i : Nat) : OccursAt (h.drop s) n i ↔ OccursAt h n (s + i) := by
  simp [OccursAt, List.drop_drop]

theorem occursAt_head (h n : Bytes) (n0 : UInt8) (i : Nat) (ho : OccursAt h (n0 :: n) i) :
    h[i]? = some n0 := by
  unfold OccursAt at ho
  obtain ⟨t, ht⟩ := ho
  have : (h.drop i)[0]? = some n0 := by rw [← ht]; simp
  simpa using this

/-- a sound answer to a search upwards from `lo`: `P` is what is looked for, `Q` what holds at an
index that is passed over, `U` bounds the range from above -/
abbrev First (P Q U : Nat → Prop) (lo : Nat) : Option Nat → Prop
  | some k => lo ≤ k ∧ U k ∧ P k ∧ ∀ j, lo ≤ j → j < k → Q j
  | none => ∀ j, lo ≤ j → U j → Q j

/-- the range grows downwards by an index that is passed over -/
theorem First.step {P Q U : Nat → Prop} {lo : Nat} {r : Option Nat} (h : First P Q U (lo + 1) r) (q : Q lo) :
    First P Q U lo r := by
  have here : ∀ j, lo ≤ j → (lo + 1 ≤ j → Q j) → Q j := fun j a f => (Nat.eq_or_lt_of_le a).elim (fun e => e ▸ q) f
  cases r with
  | none => exact fun j a u => here j a fun b => h j b u
  | some k =>
    obtain ⟨a, u, p, m⟩ := h
    exact ⟨Nat.le_of_succ_le a, u, p, fun j a' lt => here j a' fun b => m j b lt⟩

theorem First.here {P Q U : Nat → Prop} {lo : Nat} (u : U lo) (p : P lo) : First P Q U lo (some lo) :=
  ⟨Nat.le_refl _, u, p, fun _ a b => absurd b (Nat.not_lt.2 a)⟩

theorem First.iff {P Q U : Nat → Prop} (hx : ∀ j, P j → Q j → False) {lo : Nat} {r : Option Nat} (h : First P Q U lo r) :
    (∀ k, r = some k ↔ (lo ≤ k ∧ U k ∧ P k ∧ ∀ j, lo ≤ j → j < k → Q j)) ∧
    (r = none ↔ ∀ j, lo ≤ j → U j → Q j) := by
  cases r with
  | none =>
    exact ⟨fun k => ⟨(fun e => nomatch e), fun ⟨a, b, c, _⟩ => (hx k c (h k a b)).elim⟩, fun _ => h, fun _ => rfl⟩
  | some d =>
    obtain ⟨a, b, c, m⟩ := h
    refine ⟨fun k => ⟨fun e => Option.some.inj e ▸ ⟨a, b, c, m⟩, fun ⟨a', b', c', m'⟩ => ?_⟩, (fun e => nomatch e),
      fun q => (hx d c (q d a b)).elim⟩
    rcases Nat.lt_trichotomy k d with lt | rfl | gt
    · exact (hx k c' (m k a' lt)).elim
    · rfl
    · exact (hx d c (m' d a gt)).elim

/-- a sound answer to a search downwards through `[lo, hi)` for an index with `P` -/
abbrev Last (P : Nat → Prop) (lo hi : Nat) : Option Nat → Prop
  | some d => lo ≤ d ∧ d < hi ∧ P d ∧ ∀ j, d < j → j < hi → ¬ P j
  | none => ∀ j, lo ≤ j → j < hi → ¬ P j

theorem Last.extend {P : Nat → Prop} {lo mid hi : Nat} {r : Option Nat} (h : Last P lo mid r) (hm : mid ≤ hi)
    (hq : ∀ j, mid ≤ j → j < hi → ¬ P j) : Last P lo hi r := by
  have here : ∀ j, j < hi → (j < mid → ¬ P j) → ¬ P j := fun j b q => (Nat.lt_or_ge j mid).elim q fun a => hq j a b
  cases r with
  | none => exact fun j a b => here j b (h j a)
  | some d =>
    obtain ⟨a, b, p, m⟩ := h
    exact ⟨a, Nat.lt_of_lt_of_le b hm, p, fun j a' b' => here j b' (m j a')⟩

theorem Last.iff {P : Nat → Prop} {hi : Nat} {r : Option Nat} (h : Last P 0 hi r) (hb : ∀ j, P j → j < hi) :
    (∀ d, r = some d ↔ (P d ∧ ∀ j, d < j → ¬ P j)) ∧ (r = none ↔ ∀ j, ¬ P j) := by
  cases r with
  | none =>
    exact ⟨fun d => ⟨(fun e => nomatch e), fun ⟨p, _⟩ => (h d (Nat.zero_le _) (hb d p) p).elim⟩,
      fun _ j p => h j (Nat.zero_le _) (hb j p) p, fun _ => rfl⟩
  | some d =>
    obtain ⟨-, -, p, m⟩ := h
    have m' : ∀ j, d < j → ¬ P j := fun j lt pj => m j lt (hb j pj) pj
    refine ⟨fun k => ⟨fun e => Option.some.inj e ▸ ⟨p, m'⟩, fun ⟨p', m''⟩ => ?_⟩, (fun e => nomatch e), fun q => (q d p).elim⟩
    rcases Nat.lt_trichotomy k d with lt | rfl | gt
    · exact (m'' d lt p).elim
    · rfl
    · exact (m' k gt p').elim

/-- the `memmem` contract as the model calls it, on the suffix from `s` with the answer counted from the
start of `h`: by induction down from `s = h.length`, each `step` passing over a position where
the needle is no prefix -/
theorem memmem_drop_sound (h n : Bytes) (s : Nat) (hs : s ≤ h.length) :
    First (OccursAt h n) (fun j => ¬ OccursAt h n j) (· ≤ h.length) s ((memmem (h.drop s) n).map (· + s)) := by
  obtain ⟨d, hd⟩ : ∃ d, h.length = s + d := Nat.exists_eq_add_of_le hs
  induction d generalizing s with
  | zero =>
    have hnil : h.drop s = [] := List.drop_of_length_le (Nat.le_of_eq hd)
    simp only [hnil, memmem, List.isEmpty_iff, apply_ite (Option.map _), Option.map_some, Option.map_none, Nat.zero_add]
    split
    · rename_i hn
      exact First.here hs (show n <+: h.drop s from hn ▸ List.nil_prefix)
    · rename_i hn
      exact fun j a _ ho => hn (List.prefix_nil.1 (List.drop_of_length_le (Nat.le_trans (Nat.le_of_eq hd) a) ▸ ho))
  | succ d ih =>
    have hlt : s < h.length := by omega
    have hdrop := List.drop_eq_getElem_cons hlt
    simp only [hdrop, memmem, List.isPrefixOf_iff_prefix, apply_ite (Option.map _), Option.map_some, Nat.zero_add]
    split
    · rename_i hp
      exact First.here hs (show n <+: h.drop s from hdrop ▸ hp)
    · rename_i hp
      simp only [Option.map_map, Function.comp_def, Nat.add_right_comm _ 1 s]
      exact (ih (s + 1) hlt (by omega)).step fun ho => hp (hdrop ▸ ho)

theorem memmem_sound (h n : Bytes) :
    First (OccursAt h n) (fun j => ¬ OccursAt h n j) (· ≤ h.length) 0 (memmem h n) := by
  simpa using memmem_drop_sound h n 0 (Nat.zero_le _)

theorem memmem_some (h n : Bytes) (i : Nat) :
    memmem h n = some i ↔ (OccursAt h n i ∧ i ≤ h.length ∧ ∀ j, j < i → ¬ OccursAt h n j) := by
  have F := ((memmem_sound h n).iff fun _ p q => q p).1 i
  exact ⟨fun e => let ⟨_, b, c, m⟩ := F.1 e; ⟨c, b, fun j => m j (Nat.zero_le _)⟩,
    fun ⟨c, b, m⟩ => F.2 ⟨Nat.zero_le _, b, c, fun j _ => m j⟩⟩

theorem memmem_none (h n : Bytes) :
    memmem h n = none ↔ ∀ i, i ≤ h.length → ¬ OccursAt h n i := by
  have F := ((memmem_sound h n).iff fun _ p q => q p).2
  exact ⟨fun e i => F.1 e i (Nat.zero_le _), fun m => F.2 fun j _ => m j⟩

theorem memmem_fits {h n : Bytes} {k : Nat} (hm : memmem h n = some k) (hn : n ≠ []) : k + n.length ≤ h.length :=
  occursAt_le_length h n k hn ((memmem_some h n k).1 hm).1

theorem memmem_isSome_iff (h n : Bytes) : (memmem h n).isSome = true ↔ ∃ i, i ≤ h.length ∧ OccursAt h n i := by
  rw [Option.isSome_iff_exists]
  constructor
  · rintro ⟨i, hm⟩
    obtain ⟨a, b, _⟩ := (memmem_some _ _ _).1 hm
    exact ⟨i, b, a⟩
  · rintro ⟨i, h1, h2⟩
    cases hm : memmem h n with
    | none => exact absurd h2 ((memmem_none _ _).1 hm i h1)
    | some k => exact ⟨k, rfl⟩

theorem cmpAt_eq (h : Bytes) (n : Bytes) (i : Nat) (hb : i + n.length ≤ h.length) :
    cmpAt h i n = some (decide (OccursAt h n i)) := by
  induction n generalizing i with
  | nil => simp [cmpAt, OccursAt]
  | cons c n ih =>
    simp only [List.length_cons] at hb
    have hi : i < h.length := by omega
    simp only [cmpAt, rd, List.getElem?_eq_getElem hi]
    rw [ih (i + 1) (by omega)]
    simp only [Option.some.injEq]
    have hd : h.drop i = h[i] :: h.drop (i + 1) := List.drop_eq_getElem_cons hi
    simp only [OccursAt, hd, List.cons_prefix_cons]
    rw [Bool.eq_iff_iff]
    simp only [Bool.and_eq_true, beq_iff_eq, decide_eq_true_eq, @eq_comm _ c]
    exact and_congr_right fun _ => decide_eq_true_iff

theorem memchrR_spec (h : Bytes) (ch : UInt8) (ptr count : Nat) (hp : ptr ≤ h.length) (hc : count ≤ ptr) :
    ∃ r, memchrR h ch ptr count = some r ∧ Last (fun j => h[j]? = some ch) (ptr - count) ptr r := by
  induction count generalizing ptr with
  | zero => exact ⟨none, by simp only [memchrR], fun j a b => absurd b (Nat.not_lt.2 a)⟩
  | succ c ih =>
    obtain _ | p := ptr
    · omega
    have hp' : p < h.length := by omega
    have hg := List.getElem?_eq_getElem hp'
    simp only [memchrR, rd, hg, Nat.add_sub_add_right]
    split
    · rename_i hx
      exact ⟨_, rfl, Nat.sub_le _ _, Nat.lt_succ_self _, hg.trans (congrArg some (eq_of_beq hx)),
        fun j a b => absurd b (Nat.not_lt.2 a)⟩
    · rename_i hx
      obtain ⟨r, hr, hl⟩ := ih p (by omega) (by omega)
      refine ⟨r, hr, hl.extend (Nat.le_succ _) fun j a b => ?_⟩
      obtain rfl := Nat.le_antisymm (Nat.le_of_lt_succ b) a
      exact fun e => hx (beq_iff_eq.2 (Option.some.inj (hg.symm.trans e)))

theorem findLastLoop_spec (h n : Bytes) (n0 : UInt8) (fuel data : Nat)
    (hd : data + (n0 :: n).length ≤ h.length + 1) (hf : data < fuel) :
    ∃ r, findLastLoop h (n0 :: n) n0 fuel data data = some r ∧ Last (OccursAt h (n0 :: n)) 0 data r := by
  induction fuel generalizing data with
  | zero => omega
  | succ f ih =>
    rw [List.length_cons] at hd
    obtain ⟨r, hr, hl⟩ := memchrR_spec h n0 data data (by omega) (Nat.le_refl _)
    simp only [findLastLoop, hr]
    -- an occurrence starts with `n0`: where `memchrR` saw no `n0` there is none
    obtain _ | d := r
    · exact ⟨none, rfl, fun j _ b ho => hl j (by omega) b (occursAt_head _ _ _ _ ho)⟩
    · obtain ⟨-, a, -, m⟩ := hl
      have skip : ∀ j, d < j → j < data → ¬ OccursAt h (n0 :: n) j :=
        fun j a b ho => m j a b (occursAt_head _ _ _ _ ho)
      simp only [cmpAt_eq h (n0 :: n) d (by rw [List.length_cons]; omega)]
      by_cases ho : OccursAt h (n0 :: n) d
      · simp only [ho, decide_true]
        exact ⟨some d, rfl, Nat.zero_le _, a, ho, skip⟩
      · simp only [ho, decide_false]
        obtain ⟨r', hr', hl'⟩ := ih d (by rw [List.length_cons]; omega) (by omega)
        exact ⟨r', hr', hl'.extend (Nat.le_of_lt a) fun j a' b =>
          (Nat.eq_or_lt_of_le a').elim (fun e => e ▸ ho) fun lt => skip j lt b⟩

end Gpc.Search
