import Gpc.Proofs.Print
import Gpc.Proofs.List
/-! `gp_count_fmt_specs` (how many of the following print objects belong to an embedded format string)
agrees with the number of arguments the formatter's own scan consumes. -/
namespace Gpc.Printf

/-- the field-width stage that `scanSpec` inlines (tied to it by `scanSpec_eq`); `scanPrec` is the precision stage -/
def scanWidth : Bytes → Bytes × Option Num
  | 42 :: r => (r, some .star)
  | b :: r => if isDigit b then let (r', n) := scanNat (b :: r) 0; (r', some (.lit n)) else (b :: r, none)
  | [] => ([], none)

def scanPrec : Bytes → Bytes × Option Num
  | 46 :: 42 :: r => (r, some .star)
  | 46 :: r => let (r', n) := scanNat r 0; (r', some (.lit n))
  | r => (r, none)

theorem scanSpec_eq (s : Bytes) : scanSpec s =
    match s with
    | 37 :: r => some ({ conv := '%' }, r)
    | _ =>
      match (scanLen (scanPrec (scanWidth (scanFlags s {}).1).1).1).1 with
      | c :: r => some ({ flags := (scanFlags s {}).2, width := (scanWidth (scanFlags s {}).1).2,
                          prec := (scanPrec (scanWidth (scanFlags s {}).1).1).2,
                          len := (scanLen (scanPrec (scanWidth (scanFlags s {}).1).1).1).2,
                          conv := Char.ofNat c.toNat }, r)
      | [] => none := by
  unfold scanSpec
  rfl

/-- the conversion characters `csSdioxXufFeEgGp` that `gp_count_fmt_specs` looks for with `strpbrk` -/
def isConvB (b : UInt8) : Bool :=
  [99, 115, 83, 100, 105, 111, 120, 88, 117, 102, 70, 101, 69, 103, 71, 112].contains b

def Inert (b : UInt8) : Prop := isConvB b = false ∧ b ≠ 37 ∧ b ≠ 42

instance : DecidablePred Inert := fun b => by unfold Inert; infer_instance

theorem inert_of_mem (l : List UInt8) (hl : ∀ b ∈ l, Inert b) {b : UInt8} (h : b ∈ l) : Inert b := hl b h

theorem isDigit_iff (b : UInt8) : isDigit b = true ↔ 48 ≤ b.toNat ∧ b.toNat ≤ 57 := by
  simp [isDigit, UInt8.le_iff_toNat_le]

theorem inert_digit (b : UInt8) (h : isDigit b = true) : Inert b := by
  have hb := (isDigit_iff b).mp h
  simp only [Inert, isConvB, List.contains_eq_mem, List.mem_cons, List.not_mem_nil, or_false, decide_eq_false_iff_not,
    not_or]
  and_intros <;> exact digit_ne b hb _ (by decide)

theorem inert_dropWhile (p : UInt8 → Bool) (hp : ∀ b, p b → Inert b) (s : Bytes) :
    ∃ pre, s = pre ++ s.dropWhile p ∧ ∀ b ∈ pre, Inert b :=
  ⟨s.takeWhile p, List.takeWhile_append_dropWhile.symm, fun b hb => hp b (mem_takeWhile hb)⟩

theorem scanFlags_fst (s : Bytes) (f : Flags) :
    (scanFlags s f).1 = s.dropWhile fun b => b = 45 || b = 43 || b = 32 || b = 35 || b = 48 := by
  fun_induction scanFlags s f <;> simp [*]

theorem scanNat_fst (s : Bytes) (acc : Nat) : (scanNat s acc).1 = s.dropWhile isDigit := by
  fun_induction scanNat s acc <;> simp [*]

theorem scanFlags_dec : ∀ (s : Bytes) (f : Flags), ∃ pre, s = pre ++ (scanFlags s f).1 ∧ ∀ b ∈ pre, Inert b := by
  intro s f
  rw [scanFlags_fst]
  refine inert_dropWhile _ (fun b hb => ?_) s
  simp only [Bool.or_eq_true, decide_eq_true_eq] at hb
  rcases hb with (((rfl | rfl) | rfl) | rfl) | rfl <;> decide

theorem scanNat_dec (s : Bytes) (acc : Nat) : ∃ pre, s = pre ++ (scanNat s acc).1 ∧ ∀ b ∈ pre, Inert b := by
  rw [scanNat_fst]
  exact inert_dropWhile _ inert_digit s

/-- the `int` arguments a width or precision field takes: one for `*` -/
def numStar : Option Num → Nat
  | some .star => 1
  | _ => 0

/-- the `*` bytes in a run, which is how `gp_count_fmt_specs` counts those arguments -/
def stars (l : Bytes) : Nat := (l.filter (· = 42)).length

def Plain (l : Bytes) : Prop := ∀ b ∈ l, isConvB b = false ∧ b ≠ 37

theorem stars_inert (l : Bytes) (h : ∀ b ∈ l, Inert b) : stars l = 0 := by
  rw [stars, List.length_eq_zero_iff, List.filter_eq_nil_iff]
  exact fun b hb => by simpa using (h b hb).2.2

theorem plain_inert (l : Bytes) (h : ∀ b ∈ l, Inert b) : Plain l := fun b hb => ⟨(h b hb).1, (h b hb).2.1⟩

theorem stars_append (a b : Bytes) : stars (a ++ b) = stars a + stars b := by simp [stars]

theorem plain_append {a b : Bytes} (ha : Plain a) (hb : Plain b) : Plain (a ++ b) :=
  fun c hc => (List.mem_append.mp hc).elim (ha c) (hb c)

/-- `t` is what is left of `s` behind a run of bytes, `n` of them stars, with no conversion character and no `%`;
`scanWidth_dec` and `scanPrec_dec` state `Run s (scan s).1 n` written out -/
def Run (s t : Bytes) (n : Nat) : Prop := ∃ pre, s = pre ++ t ∧ Plain pre ∧ stars pre = n

theorem Run.lit (l t : Bytes) (h : ∀ b ∈ l, isConvB b = false ∧ b ≠ 37) : Run (l ++ t) t (stars l) := ⟨l, rfl, h, rfl⟩

theorem Run.refl (s : Bytes) : Run s s 0 := ⟨[], rfl, fun _ => nofun, rfl⟩

theorem Run.of_inert {s t : Bytes} (h : ∃ pre, s = pre ++ t ∧ ∀ b ∈ pre, Inert b) : Run s t 0 := by
  obtain ⟨pre, e, hp⟩ := h
  exact ⟨pre, e, plain_inert pre hp, stars_inert pre hp⟩

theorem Run.trans {s t u : Bytes} {n m : Nat} (h₁ : Run s t n) (h₂ : Run t u m) : Run s u (n + m) := by
  obtain ⟨p₁, rfl, hp₁, rfl⟩ := h₁
  obtain ⟨p₂, rfl, hp₂, rfl⟩ := h₂
  exact ⟨p₁ ++ p₂, (List.append_assoc ..).symm, plain_append hp₁ hp₂, stars_append p₁ p₂⟩

theorem scanWidth_dec (s : Bytes) :
    ∃ pre, s = pre ++ (scanWidth s).1 ∧ Plain pre ∧ stars pre = numStar (scanWidth s).2 := by
  unfold scanWidth
  split
  · exact Run.lit [42] _ (by decide)
  · split
    · exact Run.of_inert (scanNat_dec _ 0)
    · exact Run.refl _
  · exact Run.refl _

theorem scanPrec_dec (s : Bytes) :
    ∃ pre, s = pre ++ (scanPrec s).1 ∧ Plain pre ∧ stars pre = numStar (scanPrec s).2 := by
  unfold scanPrec
  split
  · exact Run.lit [46, 42] _ (by decide)
  · exact (Run.lit [46] _ (by decide)).trans (Run.of_inert (scanNat_dec _ 0))
  · exact Run.refl _

theorem scanLen_dec (s : Bytes) : ∃ pre, s = pre ++ (scanLen s).1 ∧ ∀ b ∈ pre, Inert b := by
  unfold scanLen
  split
  -- the arms of `scanLen` in order: `hh` and `ll` (first and third) take two bytes, the last none, the others one
  case h_1 | h_3 => exact ⟨[_, _], rfl, by decide⟩
  case h_13 => exact ⟨[], rfl, by decide⟩
  all_goals exact ⟨[_], rfl, by decide⟩

/-- a conversion specification is such a run with one `*` per starred field, then the conversion character -/
theorem scanSpec_dec (s : Bytes) (raw : RawSpec) (rest : Bytes) (h0 : s.head? ≠ some 37)
    (h : scanSpec s = some (raw, rest)) :
    ∃ pre c, s = pre ++ c :: rest ∧ Plain pre ∧ stars pre = numStar raw.width + numStar raw.prec ∧
      raw.conv = Char.ofNat c.toNat := by
  rw [scanSpec_eq] at h
  split at h
  · simp at h0
  · have run := ((Run.of_inert (scanFlags_dec s {})).trans (scanWidth_dec _)).trans (scanPrec_dec _) |>.trans
      (Run.of_inert (scanLen_dec _))
    split at h
    · rename_i c r hc
      obtain ⟨rfl, rfl⟩ : _ = raw ∧ r = rest := by simpa using h
      obtain ⟨pre, e, hp, hs⟩ := hc ▸ run
      exact ⟨pre, c, e, hp, by simpa using hs, rfl⟩
    · cases h

/-- `gp_count_fmt_specs` by structural recursion -/
def countS : Bytes → Nat
  | [] => 0
  | 37 :: 37 :: r => countS r
  | 37 :: r => stars (r.takeWhile (fun b => !isConvB b)) + 1 + countS r
  | _ :: r => countS r

theorem countS_pct_pct (r : Bytes) : countS (37 :: 37 :: r) = countS r := countS.eq_2 r

theorem countS_pct (r : Bytes) (h : r.head? ≠ some 37) :
    countS (37 :: r) = stars (r.takeWhile fun b => !isConvB b) + 1 + countS r :=
  countS.eq_3 r fun _ e => h (e ▸ rfl)

theorem countS_cons_ne (b : UInt8) (r : Bytes) (hb : b ≠ 37) : countS (b :: r) = countS r :=
  countS.eq_4 b r (fun _ h => absurd h hb) (fun h => absurd h hb)

/-- the side condition of a `match` arm behind `37 :: _`, as a fact about the head -/
theorem head?_ne_pct {r : Bytes} (h : ∀ t, r = 37 :: t → False) : r.head? ≠ some 37 := fun e => by
  cases r with
  | nil => cases e
  | cons a t => exact h t (by rw [Option.some.inj e])

theorem count_eq (s : Bytes) (fuel : Nat) (h : s.length ≤ fuel) : countFmtSpecs s fuel = countS s := by
  fun_induction countFmtSpecs s fuel
  · simp at h; subst h; rfl
  · rfl
  · rename_i r fuel ih
    simp only [List.length_cons] at h
    rw [ih (by omega), countS_pct_pct]
  · rename_i r fuel hne isConv pre ih
    simp only [List.length_cons] at h
    rw [ih (by omega), countS_pct r (head?_ne_pct hne)]
    rfl
  · rename_i b r fuel h1 h2 ih
    simp only [List.length_cons] at h
    rw [ih (by omega), countS_cons_ne b r fun e => h2 e]

theorem countS_skip (l rest : Bytes) (h : ∀ b ∈ l, b ≠ 37) : countS (l ++ rest) = countS rest := by
  induction l with
  | nil => rfl
  | cons b l ih =>
    rw [List.cons_append, countS_cons_ne b _ (h b (by simp)), ih (fun c hc => h c (by simp [hc]))]

theorem isConvB_ne_pct (c : UInt8) (h : isConvB c = true) : c ≠ 37 := by
  intro e; subst e; revert h; decide

theorem countS_spec (pre rest : Bytes) (c : UInt8) (hp : Plain pre) (hc : isConvB c = true) :
    countS (37 :: (pre ++ c :: rest)) = stars pre + 1 + countS rest := by
  have h37 : (pre ++ c :: rest).head? ≠ some 37 := fun e => by
    cases pre with
    | nil => exact isConvB_ne_pct c hc (Option.some.inj e)
    | cons b t => exact (hp b (by simp)).2 (Option.some.inj e)
  rw [countS_pct _ h37, List.takeWhile_append_of_pos (fun b hb => by simp [(hp b hb).1]),
    List.takeWhile_cons_of_neg (by simp [hc]), List.append_nil, countS_skip pre _ (fun b hb => (hp b hb).2),
    countS_cons_ne c rest (isConvB_ne_pct c hc)]

theorem splitLiteral_spec (fmt : Bytes) : fmt = (splitLiteral fmt).1 ++ (splitLiteral fmt).2 ∧
    (∀ b ∈ (splitLiteral fmt).1, b ≠ 37) ∧ ∀ x ∈ (splitLiteral fmt).2.head?, x = 37 :=
  ⟨List.takeWhile_append_dropWhile.symm, fun _ hb => by simpa using mem_takeWhile hb,
    fun _ hx => by simpa using mem_head?_dropWhile hx⟩

/-- the number of arguments the formatter's own scan (`splitLiteral`, `scanSpec`) takes: one per `*` and one per
conversion other than `%%`; `none` for a format it does not accept (an unknown conversion character, a `%`
conversion with flags or a width) and when the fuel runs out (one unit per specification and one for the end) -/
def argsNeeded : Nat → Bytes → Option Nat
  | 0, _ => none
  | fuel + 1, fmt =>
    match (splitLiteral fmt).2 with
    | [] => some 0
    | _ :: after =>
      match scanSpec after with
      | none => none
      | some (raw, rest) =>
        match after with
        | 37 :: _ => argsNeeded fuel rest
        | _ =>
          -- the byte just before `rest`: the conversion character `scanSpec` took
          match after[after.length - rest.length - 1]? with
          | some c =>
            if isConvB c then (argsNeeded fuel rest).map (· + (numStar raw.width + numStar raw.prec + 1)) else none
          | none => none

/-- one step of `argsNeeded` inverted: the format ends with its literal text, or `%%` or a specification in the
shape of `scanSpec_dec` follows and the rest of the format needs `k'` more -/
theorem argsNeeded_succ {fuel : Nat} {fmt : Bytes} {k : Nat} (h : argsNeeded (fuel + 1) fmt = some k) :
    (splitLiteral fmt).2 = [] ∧ k = 0 ∨
    ∃ after raw rest k', (splitLiteral fmt).2 = 37 :: after ∧ scanSpec after = some (raw, rest) ∧
      argsNeeded fuel rest = some k' ∧
      (after = 37 :: rest ∧ raw = { conv := '%' } ∧ k = k' ∨
       ∃ pre c, after = pre ++ c :: rest ∧ Plain pre ∧ isConvB c = true ∧
         stars pre = numStar raw.width + numStar raw.prec ∧ k = k' + (stars pre + 1)) := by
  unfold argsNeeded at h
  split at h
  · exact .inl ⟨‹_›, (Option.some.inj h).symm⟩
  · rename_i x after hr
    obtain rfl : x = 37 := (splitLiteral_spec fmt).2.2 x (by rw [hr]; rfl)
    split at h
    · cases h
    · rename_i raw rest hs
      refine .inr ⟨after, raw, rest, ?_⟩
      split at h
      · rename_i r
        obtain ⟨rfl, rfl⟩ : { conv := '%' } = raw ∧ r = rest := by simpa [scanSpec] using hs
        exact ⟨k, hr, hs, h, .inl ⟨rfl, rfl, rfl⟩⟩
      · rename_i hne
        obtain ⟨pre, c, rfl, hp, hst, -⟩ := scanSpec_dec after raw rest (head?_ne_pct hne) hs
        have hidx : (pre ++ c :: rest)[(pre ++ c :: rest).length - rest.length - 1]? = some c := by
          rw [show (pre ++ c :: rest).length - rest.length - 1 = pre.length by
            simp only [List.length_append, List.length_cons]; omega]
          simp
        simp only [hidx] at h
        split at h
        · rename_i hc
          obtain ⟨k', hk, rfl⟩ := Option.map_eq_some_iff.mp h
          exact ⟨k', hr, hs, hk, .inr ⟨pre, c, rfl, hp, hc, hst, by rw [hst]⟩⟩
        · cases h

/-- `gp_count_fmt_specs` counts what the formatter consumes, for every format the formatter's scan accepts -/
theorem countS_eq_argsNeeded (fuel : Nat) : ∀ (fmt : Bytes) (k : Nat), argsNeeded fuel fmt = some k → countS fmt = k := by
  induction fuel with
  | zero => intro fmt k h; cases h
  | succ fuel ih =>
    intro fmt k h
    obtain ⟨hfmt, hlit, -⟩ := splitLiteral_spec fmt
    rw [hfmt, countS_skip _ _ hlit]
    rcases argsNeeded_succ h with ⟨hr, rfl⟩ | ⟨after, raw, rest, k', hr, -, hk', hcase⟩
    · rw [hr]; rfl
    · rw [hr]
      rcases hcase with ⟨rfl, -, rfl⟩ | ⟨pre, c, rfl, hp, hc, -, rfl⟩
      · exact (countS_pct_pct rest).trans (ih rest k hk')
      · rw [countS_spec pre rest c hp hc, ih rest k' hk']; omega

theorem countFmtSpecs_eq_argsNeeded (fmt : Bytes) (fuel k : Nat) (h : argsNeeded fuel fmt = some k) :
    countFmtSpecs fmt (fmt.length + 1) = k := by
  rw [count_eq fmt _ (by omega)]; exact countS_eq_argsNeeded fuel fmt k h

end Gpc.Printf
