import Gpc.Proofs.FloatSpecWF
/-! The digits of the specification's fixed notation, read as a number, are the rounded scaled value. -/
namespace Gpc.Printf

theorem filter_ne_point_digits (ds : Bytes) (h : IsDigits ds) : ds.filter (· ≠ 46) = ds :=
  List.filter_eq_self.mpr fun b hb => by simpa using digit_ne b (h b hb) 46 (by decide)

theorem fixedText_value (m : Nat) (e : Int) (prec : Nat) (alt : Bool) :
    valueOf ((fixedText m e prec alt).filter (· ≠ 46)) = scaled m e prec ∧
    (0 < prec → ((fixedText m e prec alt).dropWhile (· ≠ 46)).length = prec + 1) := by
  obtain ⟨ip, dot, hi, hd, hl, hv, h⟩ := fixedText_parts m e prec alt
  rw [h]
  constructor
  · rw [← hv, List.filter_append, filter_ne_point_digits ip hi.1]
    cases hd with
    | none => rfl
    | point hf => rw [List.filter_cons_of_neg (by simp), filter_ne_point_digits _ hf]; rfl
  · rwa [(point_split hi.1 hd).2]

/-- numerator and denominator of the exact value `m · 2^e · 10^p` -/
def scaledNum (m : Nat) (e p : Int) : Nat := m * (if e ≥ 0 then 2 ^ e.toNat else 1) * (if p ≥ 0 then 10 ^ p.toNat else 1)
def scaledDen (e p : Int) : Nat := (if e ≥ 0 then 1 else 2 ^ (-e).toNat) * (if p ≥ 0 then 1 else 10 ^ (-p).toNat)

theorem scaled_eq (m : Nat) (e p : Int) : scaled m e p = roundDiv (scaledNum m e p) (scaledDen e p) := rfl

theorem scaledNum_natCast (m : Nat) (e : Int) (p : Nat) :
    scaledNum m e p = m * (if e ≥ 0 then 2 ^ e.toNat else 1) * 10 ^ p := by
  rw [scaledNum, if_pos (Int.natCast_nonneg p), Int.toNat_natCast]

theorem scaledDen_natCast (e : Int) (p : Nat) : scaledDen e p = if e ≥ 0 then 1 else 2 ^ (-e).toNat := by
  rw [scaledDen, if_pos (Int.natCast_nonneg p), Nat.mul_one]

theorem scaledDen_pos (e p : Int) : 0 < scaledDen e p := by
  unfold scaledDen
  apply Nat.mul_pos
  · split
    · omega
    · exact Nat.pow_pos (by omega)
  · split
    · omega
    · exact Nat.pow_pos (by omega)

theorem expParts_value (m : Nat) (e : Int) (prec : Nat) (hm : m ≠ 0) :
    valueOf (expParts m e prec).1 = scaled m e ((prec : Int) - (expParts m e prec).2) := by
  unfold expParts
  simp only [hm, if_false]
  split <;> simp only [valueOf_natDigits]

end Gpc.Printf
