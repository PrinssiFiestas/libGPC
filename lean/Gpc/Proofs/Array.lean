import Gpc.Model.Array
import Gpc.Proofs.List
/-!
The checked primitives of the array model as list splices: a write (`memcpyIn`) changes exactly the
bytes it covers, a move (`memmove`) is a write of the bytes it reads.  Then the array invariant
under `gp_arr_reserve`, and the elements of an array as `es`-byte chunks.
-/
namespace Gpc.Arr

theorem memcpyIn_spec (d : Bytes) (p : Nat) (x : Bytes) (h : p + x.length ≤ d.length) :
    ∃ d', memcpyIn d p x = some d' ∧ d'.length = d.length ∧
      (∀ k, k ≤ p → d'.take k = d.take k) ∧ d'.drop p = x ++ d.drop (p + x.length) := by
  refine ⟨_, if_pos h, ?_, fun k hk => ?_, ?_⟩
  · simp only [List.length_append, List.length_take, List.length_drop]; omega
  · rw [List.append_assoc, List.take_append_of_le_length (by rw [List.length_take]; omega), List.take_take,
      Nat.min_eq_left hk]
  · rw [List.append_assoc, List.drop_left' (by rw [List.length_take]; omega)]

theorem memcpyIn_take (d : Bytes) (p : Nat) (x : Bytes) (h : p + x.length ≤ d.length) :
    ∃ d', memcpyIn d p x = some d' ∧ d'.length = d.length ∧ d'.take (p + x.length) = d.take p ++ x ∧
      ∀ k, p + x.length ≤ k → d'.drop k = d.drop k := by
  obtain ⟨d', e, l, t, r⟩ := memcpyIn_spec d p x h
  refine ⟨d', e, l, by rw [List.take_add, t p (Nat.le_refl _), r, List.take_left], fun k hk => ?_⟩
  obtain ⟨j, rfl⟩ := Nat.exists_eq_add_of_le hk
  rw [Nat.add_assoc, ← List.drop_drop, r, List.drop_length_add_append, List.drop_drop, Nat.add_assoc]

theorem write_spec (buf x : Bytes) (h : x.length ≤ buf.length) :
    ∃ b, memcpyIn buf 0 x = some b ∧ b.length = buf.length ∧ b.take x.length = x := by
  obtain ⟨b, e, l, t, -⟩ := memcpyIn_take buf 0 x (by omega)
  exact ⟨b, e, l, by simpa using t⟩

theorem memmove_eq_memcpyIn (d : Bytes) (dst src n : Nat) (h : src + n ≤ d.length) :
    memmove d dst src n = memcpyIn d dst ((d.drop src).take n) := by
  have hl : ((d.drop src).take n).length = n := length_take_drop (Nat.le_sub_of_add_le' h)
  simp only [memmove, memcpyIn, hl, h, and_true]

theorem memmove_spec (d : Bytes) (dst src n : Nat) (h1 : dst + n ≤ d.length) (h2 : src + n ≤ d.length) :
    ∃ d', memmove d dst src n = some d' ∧ d'.length = d.length ∧
      (∀ k, k ≤ dst → d'.take k = d.take k) ∧ d'.drop dst = (d.drop src).take n ++ d.drop (dst + n) := by
  have hl : ((d.drop src).take n).length = n := length_take_drop (Nat.le_sub_of_add_le' h2)
  have := memcpyIn_spec d dst ((d.drop src).take n) (by omega)
  rwa [← memmove_eq_memcpyIn d dst src n h2, hl] at this

theorem memmove_take (d : Bytes) (dst src n : Nat) (h1 : dst + n ≤ d.length) (h2 : src + n ≤ d.length) :
    ∃ d', memmove d dst src n = some d' ∧ d'.length = d.length ∧
      d'.take (dst + n) = d.take dst ++ (d.drop src).take n := by
  obtain ⟨d', e, l, t, r⟩ := memmove_spec d dst src n h1 h2
  refine ⟨d', e, l, ?_⟩
  rw [List.take_add, t dst (Nat.le_refl _), r, List.take_left' (length_take_drop (Nat.le_sub_of_add_le' h2))]

theorem memmove_front (d : Bytes) (s n : Nat) (h : s + n ≤ d.length) :
    ∃ d', memmove d 0 s n = some d' ∧ d'.length = d.length ∧ d'.take n = (d.drop s).take n := by
  simpa using memmove_take d 0 s n (by omega) h

/-- The edit behind insert and replace: of the content `c` (the first `l` bytes of `d`) the bytes
`[s, e)` are replaced by `x`; the tail `[e, l)` is moved to where it will stand, then `x` is written
in front of it. -/
theorem splice_spec (d x c : Bytes) (s e l : Nat) (hc : d.take l = c) (hse : s ≤ e) (hel : e ≤ l) (hl : l ≤ d.length)
    (hfit : s + x.length + (l - e) ≤ d.length) :
    ∃ d1 d', memmove d (s + x.length) e (l - e) = some d1 ∧ memcpyIn d1 s x = some d' ∧ d'.length = d.length ∧
      d'.take (s + x.length + (l - e)) = c.take s ++ x ++ c.drop e := by
  obtain ⟨d1, e1, l1, t1, r1⟩ := memmove_spec d (s + x.length) e (l - e) hfit
    (by rw [Nat.add_sub_cancel' hel]; exact hl)
  obtain ⟨d', e2, l2, t2, r2⟩ := memcpyIn_spec d1 s x (l1 ▸ Nat.le_trans (Nat.le_add_right _ _) hfit)
  refine ⟨d1, d', e1, e2, l2.trans l1, ?_⟩
  have hm : (x ++ (d.drop e).take (l - e)).length = x.length + (l - e) := by
    rw [List.length_append, List.length_take, List.length_drop, Nat.min_eq_left (Nat.sub_le_sub_right hl e)]
  rw [Nat.add_assoc, List.take_add, t2 s (Nat.le_refl _), r2, t1 s (Nat.le_add_right _ _), r1, ← List.append_assoc,
    List.take_left' hm, ← hc, List.take_take, Nat.min_eq_left (Nat.le_trans hse hel), List.drop_take,
    List.append_assoc]

theorem np2_gt (x : Nat) : x < np2 x := by
  unfold np2
  split
  · omega
  · exact Nat.lt_log2_self

structure Inv (a : Arr) : Prop where
  len_le : a.length ≤ a.capacity
  size : a.data.length = a.capacity * a.es

/-- the array can reallocate (it is not a stack array without allocator), or `need` fits already -/
def CanGrow (a : Arr) (need : Nat) : Prop := a.kind ≠ .stack false ∨ need ≤ a.capacity

theorem Inv.fits {a : Arr} (h : Inv a) {k : Nat} (hk : k ≤ a.capacity) : k * a.es ≤ a.data.length :=
  h.size ▸ Nat.mul_le_mul_right _ hk

theorem Inv.update {a : Arr} (h : Inv a) {d : Bytes} {l : Nat} (hd : d.length = a.data.length) (hl : l ≤ a.capacity) :
    Inv { a with data := d, length := l } := ⟨hl, hd.trans h.size⟩

theorem reserve_spec (a : Arr) (r : Nat) (h : Inv a) :
    Inv (reserve a r) ∧ (reserve a r).length = a.length ∧ (reserve a r).es = a.es ∧
      (reserve a r).data.take (a.length * a.es) = bytes a ∧
      (CanGrow a r → r ≤ (reserve a r).capacity) := by
  obtain ⟨hl, hs⟩ := h
  have hle : a.length * a.es ≤ a.capacity * a.es := Nat.mul_le_mul_right _ hl
  have hgt := np2_gt r
  unfold reserve bytes
  split
  · rename_i hk
    exact ⟨⟨hl, hs⟩, rfl, rfl, rfl, fun hg => hg.resolve_left fun hn => hn hk⟩
  · split
    · split
      · refine ⟨⟨show a.length ≤ np2 r by omega, ?_⟩, rfl, rfl, ?_, fun _ => show r ≤ np2 r by omega⟩
        · simp only [List.length_append, List.length_replicate, hs, ← Nat.add_mul]; congr 1; omega
        · exact List.take_append_of_le_length (by omega)
      · refine ⟨⟨show a.length ≤ np2 r by omega, ?_⟩, rfl, rfl, ?_, fun _ => show r ≤ np2 r by omega⟩
        · have : a.length * a.es ≤ np2 r * a.es := Nat.mul_le_mul_right _ (by omega)
          simp only [List.length_append, List.length_take, List.length_replicate, hs]; omega
        · show List.take _ (List.take _ a.data ++ _) = _
          rw [List.take_append_of_le_length (by simp only [List.length_take]; omega), List.take_take, Nat.min_self]
    · exact ⟨⟨hl, hs⟩, rfl, rfl, rfl, fun hg => by unfold CanGrow at hg; omega⟩

theorem chunks_length (es n : Nat) (b : Bytes) : (chunks es n b).length = n := by
  induction n generalizing b with
  | zero => rfl
  | succ k ih => simp [chunks, ih]

theorem chunks_flatten (es n : Nat) (b : Bytes) (h : n * es ≤ b.length) : (chunks es n b).flatten = b.take (n * es) := by
  induction n generalizing b with
  | zero => simp [chunks]
  | succ k ih =>
    have h' : k * es + es ≤ b.length := by rw [← Nat.succ_mul]; exact h
    simp only [chunks, List.flatten_cons]
    rw [ih (b.drop es) (by simp only [List.length_drop]; omega)]
    rw [Nat.succ_mul, Nat.add_comm (k * es) es, List.take_add]

theorem chunks_elem_length (es n : Nat) (b : Bytes) (h : n * es ≤ b.length) : ∀ e ∈ chunks es n b, e.length = es := by
  induction n generalizing b with
  | zero => intro e he; simp [chunks] at he
  | succ k ih =>
    have h' : k * es + es ≤ b.length := by rw [← Nat.succ_mul]; exact h
    intro e he
    simp only [chunks, List.mem_cons] at he
    rcases he with rfl | he
    · simp only [List.length_take]; omega
    · exact ih (b.drop es) (by simp only [List.length_drop]; omega) e he

theorem chunks_take (es n : Nat) (b : Bytes) : chunks es n (b.take (n * es)) = chunks es n b := by
  induction n generalizing b with
  | zero => rfl
  | succ k ih =>
    simp only [chunks]
    have e1 : (b.take ((k + 1) * es)).take es = b.take es := by
      rw [List.take_take]; congr 1; rw [Nat.succ_mul]; omega
    have e2 : (b.take ((k + 1) * es)).drop es = (b.drop es).take (k * es) := by
      rw [List.drop_take]; congr 1; rw [Nat.succ_mul]; omega
    rw [e1, e2, ih]

end Gpc.Arr
