import Gpc.Spec.Utf8
import Gpc.Proofs.Nat
/-!
The rows of Unicode Table 3-7 (`Row`), which both `wfLen` and the library's per-code-point test find at
the head of a string; the scanning and counting loops as equations over the `window` of bytes they pass.
-/
namespace Gpc.Utf8

theorem mask_concat (a b m k u v : Nat) (hb : b < 256) (hk : k < 256) (hv : v < 256) :
    (a * 256 + b) &&& (m * 256 + k) = u * 256 + v ↔ a &&& m = u ∧ b &&& k = v := by
  have : b &&& k < 256 := Nat.lt_of_le_of_lt Nat.and_le_right hk
  rw [and_concat_pow 8 a b m k hb hk]
  omega

/-- the four masks of `gp_valid_codepoint`, on one byte -/
theorem byte_C0 : ∀ b, b < 256 → ((b &&& 0xC0 = 0x80) ↔ (0x80 ≤ b ∧ b ≤ 0xBF)) := by decide +kernel
theorem byte_E0 : ∀ b, b < 256 → ((b &&& 0xE0 = 0xC0) ↔ (0xC0 ≤ b ∧ b ≤ 0xDF)) := by decide +kernel
theorem byte_F0 : ∀ b, b < 256 → ((b &&& 0xF0 = 0xE0) ↔ (0xE0 ≤ b ∧ b ≤ 0xEF)) := by decide +kernel
theorem byte_F8 : ∀ b, b < 256 → ((b &&& 0xF8 = 0xF0) ↔ (0xF0 ≤ b ∧ b ≤ 0xF7)) := by decide +kernel

/-- `gp_valid_codepoint` without the order of its tests: the ranges are disjoint -/
theorem validCodepoint_iff (c : Nat) : validCodepoint c = true ↔
    c ≤ 0x7F ∨ (0xC280 ≤ c ∧ c ≤ 0xDFBF ∧ c &&& 0xE0C0 = 0xC080)
    ∨ ((0xE0A080 ≤ c ∧ c ≤ 0xEFBFBF ∧ ¬ (0xEDA080 ≤ c ∧ c ≤ 0xEDBFBF)) ∧ c &&& 0xF0C0C0 = 0xE08080)
    ∨ ((0xF0908080 ≤ c ∧ c ≤ 0xF48FBFBF) ∧ c &&& 0xF8C0C0C0 = 0xF0808080) := by
  unfold validCodepoint
  generalize c &&& 0xE0C0 = m2
  generalize c &&& 0xF0C0C0 = m3
  generalize c &&& 0xF8C0C0C0 = m4
  (repeat' split) <;> simp only [beq_iff_eq, Bool.false_eq_true, true_iff, false_iff] <;> omega

/-- the rows of Unicode Table 3-7 ("Well-Formed UTF-8 Byte Sequences"), one constructor per sequence
length; `wfLen c = c.length` for a non-empty `c` says the same -/
inductive Row : Bytes → Prop
  | one {b0} : b0.toNat ≤ 0x7F → Row [b0]
  | two {b0 b1} : 0xC2 ≤ b0.toNat → b0.toNat ≤ 0xDF → cont b1 → Row [b0, b1]
  | three {b0 b1 b2} : 0xE0 ≤ b0.toNat → b0.toNat ≤ 0xEF → sec3 b0.toNat b1 → cont b2 → Row [b0, b1, b2]
  | four {b0 b1 b2 b3} : 0xF0 ≤ b0.toNat → b0.toNat ≤ 0xF4 → sec4 b0.toNat b1 → cont b2 → cont b3 →
      Row [b0, b1, b2, b3]

theorem Row.length_bounds {c : Bytes} (h : Row c) : 0 < c.length ∧ c.length ≤ 4 := by
  cases h <;> simp

theorem Row.ne_nil {c : Bytes} (h : Row c) : c ≠ [] := List.ne_nil_of_length_pos h.length_bounds.1

theorem Row.tail_cont {b0 : UInt8} {t : Bytes} (h : Row (b0 :: t)) : ∀ b ∈ t, cont b := by
  cases h with
  | one => simp
  | two _ _ h1 => simpa using h1
  | three _ _ h1 h2 => simpa using ⟨h1.2.2, h2⟩
  | four _ _ h1 h2 h3 => simpa using ⟨h1.2.2, h2, h3⟩

theorem Row.lead_not_cont {b0 : UInt8} {t : Bytes} (h : Row (b0 :: t)) : ¬ cont b0 := by
  unfold cont; cases h <;> omega

theorem Row.wfLen_append {c : Bytes} (h : Row c) (t : Bytes) : wfLen (c ++ t) = c.length := by
  cases h with
  | one h0 => simp only [List.cons_append, List.nil_append, wfLen, if_pos h0, List.length_cons, List.length_nil]
  | two h0 h0' h1 =>
    simp only [List.cons_append, List.nil_append, wfLen]
    rw [if_neg (by omega), if_pos ⟨h0, h0'⟩, if_pos h1]; rfl
  | three h0 h0' h1 h2 =>
    simp only [List.cons_append, List.nil_append, wfLen]
    rw [if_neg (by omega), if_neg (by omega), if_pos ⟨h0, h0'⟩, if_pos ⟨h1, h2⟩]; rfl
  | four h0 h0' h1 h2 h3 =>
    simp only [List.cons_append, List.nil_append, wfLen]
    rw [if_neg (by omega), if_neg (by omega), if_neg (by omega), if_pos ⟨h0, by omega⟩, if_pos ⟨h1, h2, h3⟩]
    rfl

theorem Row.wfLen_eq {c : Bytes} (h : Row c) : wfLen c = c.length := by
  simpa using h.wfLen_append []

theorem wfLen_cases (s : Bytes) : wfLen s = 0 ∨ ∃ c t, Row c ∧ s = c ++ t ∧ wfLen s = c.length := by
  fun_cases wfLen s
  case case2 h => exact .inr ⟨[_], _, .one h, rfl, rfl⟩
  case case3 h _ _ h1 => exact .inr ⟨[_, _], _, .two h.1 h.2 h1, rfl, rfl⟩
  case case6 h _ _ _ h12 => exact .inr ⟨[_, _, _], _, .three h.1 h.2 h12.1 h12.2, rfl, rfl⟩
  case case9 h _ _ _ _ h123 => exact .inr ⟨[_, _, _, _], _, .four h.1 h.2 h123.1 h123.2.1 h123.2.2, rfl, rfl⟩
  all_goals exact .inl rfl

theorem wfLen_le (s : Bytes) : wfLen s ≤ s.length ∧ wfLen s ≤ 4 := by
  rcases wfLen_cases s with h | ⟨c, t, hc, rfl, h⟩
  · omega
  · have := hc.length_bounds
    rw [h, List.length_append]; omega

theorem row_of_wfLen (c : Bytes) (hc : c ≠ []) (h : wfLen c = c.length) : Row c := by
  rcases wfLen_cases c with h0 | ⟨r, t, hr, e, hl⟩
  · exact absurd (List.eq_nil_of_length_eq_zero (h ▸ h0)) hc
  · have : t = [] := List.eq_nil_of_length_eq_zero (by
      have := congrArg List.length e; rw [List.length_append] at this; omega)
    rw [e, this, List.append_nil]; exact hr

theorem wfLen_append (c t : Bytes) (hc : c ≠ []) (h : wfLen c = c.length) : wfLen (c ++ t) = c.length :=
  (row_of_wfLen c hc h).wfLen_append t

theorem Row.wellFormed_append {c r : Bytes} (hc : Row c) (hr : WellFormed r) : WellFormed (c ++ r) :=
  .cons c r hc.ne_nil hc.wfLen_eq hr

theorem WellFormed.induction_row {motive : (s : Bytes) → WellFormed s → Prop} (nil : motive [] .nil)
    (cons : ∀ c r (hc : Row c) (hr : WellFormed r), motive r hr → motive (c ++ r) (hc.wellFormed_append hr))
    {s : Bytes} (h : WellFormed s) : motive s h := by
  induction h with
  | nil => exact nil
  | cons c r hc hl hr ih => exact cons c r (row_of_wfLen c hc hl) hr ih

theorem cpLen_eq (b0 : UInt8) : cpLen b0 =
    (if b0.toNat < 128 then 1 else if b0.toNat < 192 then 0 else if b0.toNat < 224 then 2
     else if b0.toNat < 240 then 3 else if b0.toNat < 248 then 4 else 0) := by
  simp only [cpLen, Nat.div_lt_iff_lt_mul (show 0 < 8 by decide), Nat.reduceMul]
  -- only the last test differs: `b / 8 = 30` against `b < 248`, asked when `240 ≤ b`
  refine ite_congr rfl (fun _ => rfl) fun _ => ite_congr rfl (fun _ => rfl) fun _ =>
    ite_congr rfl (fun _ => rfl) fun _ => ite_congr rfl (fun _ => rfl) fun _ => ite_congr ?_ (fun _ => rfl) fun _ => rfl
  apply propext; omega

theorem cpLen_cases (b : UInt8) :
    (cpLen b = 1 ∧ b.toNat < 128) ∨ (cpLen b = 2 ∧ 192 ≤ b.toNat ∧ b.toNat < 224)
    ∨ (cpLen b = 3 ∧ 224 ≤ b.toNat ∧ b.toNat < 240) ∨ (cpLen b = 4 ∧ 240 ≤ b.toNat ∧ b.toNat < 248)
    ∨ (cpLen b = 0 ∧ (128 ≤ b.toNat ∧ b.toNat < 192 ∨ 248 ≤ b.toNat)) := by
  rw [cpLen_eq]
  (repeat' split) <;> omega

theorem Row.cpLen {b0 : UInt8} {t : Bytes} (h : Row (b0 :: t)) : cpLen b0 = t.length + 1 := by
  have := cpLen_cases b0
  cases h <;> simp only [List.length_cons, List.length_nil] <;> omega

theorem pack1 (b0 : UInt8) : pack [b0] = b0.toNat := by simp [pack]
theorem pack2 (b0 b1 : UInt8) : pack [b0, b1] = b0.toNat * 256 + b1.toNat := by simp [pack]
theorem pack3 (b0 b1 b2 : UInt8) : pack [b0, b1, b2] = (b0.toNat * 256 + b1.toNat) * 256 + b2.toNat := by
  simp [pack]
theorem pack4 (b0 b1 b2 b3 : UInt8) :
    pack [b0, b1, b2, b3] = ((b0.toNat * 256 + b1.toNat) * 256 + b2.toNat) * 256 + b3.toNat := by simp [pack]

theorem validCodepoint_pack (b0 : UInt8) (t : Bytes) (h : cpLen b0 = t.length + 1) :
    validCodepoint (pack (b0 :: t)) = true ↔ Row (b0 :: t) := by
  have hl := cpLen_cases b0
  -- in each length the lead byte picks the branch of the ladder; the mask is tested byte by byte
  rcases t with _ | ⟨b1, _ | ⟨b2, _ | ⟨b3, _ | ⟨b4, t⟩⟩⟩⟩ <;>
    simp only [List.length_cons, List.length_nil] at h
  · -- 00..7F
    rw [pack1, validCodepoint_iff]
    exact ⟨fun _ => .one (by omega), fun _ => .inl (by omega)⟩
  · -- C2..DF 80..BF: the range from 0xC280 leaves out the overlong leads C0, C1
    have h1 := b1.toNat_lt
    rw [pack2, validCodepoint_iff, or_iff_right (by omega), or_iff_left (by omega),
      mask_concat _ _ 0xE0 0xC0 0xC0 0x80 h1 (by decide) (by decide), byte_C0 _ h1, byte_E0 _ (by omega)]
    exact ⟨fun ⟨_, _, _, c1⟩ => .two (by omega) (by omega) c1, fun h => by cases h; unfold cont at *; omega⟩
  · -- E0..EF, second byte from A0 after E0 (not overlong: range from 0xE0A080) and up to 9F after ED
    -- (no surrogate: range 0xEDA080..0xEDBFBF)
    have h1 := b1.toNat_lt; have h2 := b2.toNat_lt
    rw [pack3, validCodepoint_iff, or_iff_right (by omega), or_iff_right (by omega), or_iff_left (by omega),
      mask_concat _ _ (0xF0 * 256 + 0xC0) 0xC0 (0xE0 * 256 + 0x80) 0x80 h2 (by decide) (by decide),
      mask_concat _ _ 0xF0 0xC0 0xE0 0x80 h1 (by decide) (by decide), byte_C0 _ h1, byte_C0 _ h2,
      byte_F0 _ (by omega)]
    exact ⟨fun ⟨_, ⟨_, c1⟩, c2⟩ => .three (by omega) (by omega) ⟨by omega, by omega, c1⟩ c2,
      fun h => by cases h; unfold sec3 cont at *; omega⟩
  · -- F0..F4, second byte from 90 after F0 (not overlong) and up to 8F after F4 (not above U+10FFFF):
    -- range 0xF0908080..0xF48FBFBF
    have h1 := b1.toNat_lt; have h2 := b2.toNat_lt; have h3 := b3.toNat_lt
    rw [pack4, validCodepoint_iff, or_iff_right (by omega), or_iff_right (by omega), or_iff_right (by omega),
      mask_concat _ _ ((0xF8 * 256 + 0xC0) * 256 + 0xC0) 0xC0 ((0xF0 * 256 + 0x80) * 256 + 0x80) 0x80 h3 (by decide)
        (by decide),
      mask_concat _ _ (0xF8 * 256 + 0xC0) 0xC0 (0xF0 * 256 + 0x80) 0x80 h2 (by decide) (by decide),
      mask_concat _ _ 0xF8 0xC0 0xF0 0x80 h1 (by decide) (by decide), byte_C0 _ h1, byte_C0 _ h2, byte_C0 _ h3,
      byte_F8 _ (by omega)]
    exact ⟨fun ⟨_, ⟨⟨_, c1⟩, c2⟩, c3⟩ => .four (by omega) (by omega) ⟨by omega, by omega, c1⟩ c2 c3,
      fun h => by cases h; unfold sec4 cont at *; omega⟩
  · omega

/-- the library's per-code-point test accepts exactly the rows of Table 3-7 -/
theorem validAtHead_eq_some (s : Bytes) (n : Nat) :
    validAtHead s = some n ↔ ∃ c t, Row c ∧ s = c ++ t ∧ c.length = n := by
  constructor
  · intro h
    rcases s with _ | ⟨b0, t⟩
    · cases h
    simp only [validAtHead] at h
    split at h
    · cases h
    rename_i hn
    split at h
    · rename_i hv
      obtain rfl : cpLen b0 = n := Option.some.inj h
      -- the sequence is `b0` and the next `k` bytes
      obtain ⟨k, hk⟩ : ∃ k, cpLen b0 = k + 1 := ⟨cpLen b0 - 1, by omega⟩
      rw [hk, List.length_cons] at hn
      rw [hk, List.take_succ_cons] at hv
      have hlen : (t.take k).length = k := by rw [List.length_take]; omega
      exact ⟨b0 :: t.take k, t.drop k, (validCodepoint_pack b0 _ (by rw [hk, hlen])).1 hv,
        by rw [List.cons_append, List.take_append_drop], by rw [List.length_cons, hlen, hk]⟩
    · cases h
  · rintro ⟨c, t, hc, rfl, rfl⟩
    rcases c with _ | ⟨b0, c⟩
    · cases hc
    have hl := hc.cpLen
    simp only [validAtHead, List.cons_append, hl, List.length_cons, List.length_append]
    rw [if_neg (by omega), List.take_succ_cons, List.take_left' rfl, (validCodepoint_pack b0 c hl).2 hc]
    rfl

theorem validAtHead_eq (s : Bytes) :
    validAtHead s = if wfLen s = 0 then none else some (wfLen s) := by
  cases hv : validAtHead s with
  | some n =>
    obtain ⟨c, t, hc, rfl, rfl⟩ := (validAtHead_eq_some _ _).1 hv
    have := hc.length_bounds
    rw [hc.wfLen_append, if_neg (by omega)]
  | none =>
    rcases wfLen_cases s with h | ⟨c, t, hc, e, h⟩
    · rw [if_pos h]
    · rw [(validAtHead_eq_some s _).2 ⟨c, t, hc, e, rfl⟩] at hv; cases hv

/-- the bytes `s[i..stop)` that one of the scanning or counting loops passes over -/
def window (s : Bytes) (i stop : Nat) : Bytes := (s.drop i).take (stop - i)

theorem window_cons (s : Bytes) {i stop : Nat} (hi : i < stop) (hstop : stop ≤ s.length) :
    window s i stop = s[i] :: window s (i + 1) stop := by
  unfold window
  rw [List.drop_eq_getElem_cons (by omega), show stop - i = stop - (i + 1) + 1 by omega, List.take_succ_cons]

theorem window_of_le (s : Bytes) {i stop : Nat} (h : stop ≤ i) : window s i stop = [] := by
  unfold window; rw [show stop - i = 0 by omega, List.take_zero]

theorem window_append (s : Bytes) {i j stop : Nat} (hij : i ≤ j) (hj : j ≤ stop) :
    window s i stop = window s i j ++ window s j stop := by
  unfold window
  rw [show stop - i = (j - i) + (stop - j) by omega, List.take_add, List.drop_drop, show i + (j - i) = j by omega]

theorem window_all (s : Bytes) : window s 0 s.length = s := by
  unfold window; rw [List.drop_zero, Nat.sub_zero, List.take_length]

theorem window_length (s : Bytes) {i stop : Nat} (hstop : stop ≤ s.length) : (window s i stop).length = stop - i := by
  unfold window; rw [List.length_take, List.length_drop]; omega

theorem window_block (s : Bytes) (i : Nat) : window s i (i + 8) = (s.drop i).take 8 := by
  unfold window; rw [Nat.add_sub_cancel_left]

theorem byteScan_spec (s : Bytes) (fuel i stop : Nat) (hstop : stop ≤ s.length) (hf : stop - i ≤ fuel) :
    byteScan s fuel i stop = some (((window s i stop).findIdx? high).map (· + i)) := by
  induction fuel generalizing i with
  | zero => rw [window_of_le s (by omega)]; rfl
  | succ f ih =>
    simp only [byteScan]
    split
    · rename_i hi
      rw [List.getElem?_eq_getElem (by omega), window_cons s hi hstop, List.findIdx?_cons]
      simp only []
      split
      · rw [Option.map_some, Nat.zero_add]
      · rw [ih (i + 1) (by omega), Option.map_map]
        congr 2; funext k; exact (Nat.add_right_comm k 1 i).symm
    · rw [window_of_le s (by omega)]; rfl

theorem blockScan_spec (s : Bytes) (fuel i n : Nat) (hstop : i + 8 * n ≤ s.length) (hf : n ≤ fuel) :
    ∃ j, blockScan s fuel i (i + 8 * n) = some j ∧ i ≤ j ∧ j ≤ i + 8 * n ∧ (window s i j).findIdx? high = none := by
  -- where the loop stops at once the empty window has been passed
  have stay (i n : Nat) : ∃ j, some i = some j ∧ i ≤ j ∧ j ≤ i + 8 * n ∧ (window s i j).findIdx? high = none :=
    ⟨i, rfl, Nat.le_refl _, Nat.le_add_right _ _, by rw [window_of_le s (Nat.le_refl _)]; rfl⟩
  induction fuel generalizing i n with
  | zero => exact stay i n
  | succ f ih =>
    rcases n with _ | n
    · rw [blockScan, if_neg (by omega)]; exact stay i 0
    rw [blockScan, if_pos (by omega), if_pos (by omega)]
    split
    · exact stay i _
    · rename_i hany
      have hnone : (window s i (i + 8)).findIdx? high = none := by
        rw [window_block, ← Option.not_isSome_iff_eq_none, List.findIdx?_isSome]; exact hany
      obtain ⟨j, hj, a, b, c⟩ := ih (i + 8) n (by omega) (by omega)
      rw [show i + 8 * (n + 1) = i + 8 + 8 * n by omega]
      refine ⟨j, hj, by omega, b, ?_⟩
      rw [window_append s (Nat.le_add_right i 8) a, List.findIdx?_append, hnone, c]; rfl

/-- the sum of the `valid_leading_nibble` entries: the number of bytes outside 0x80..0xBF -/
def sumLN (l : Bytes) : Nat := (l.map leadNibble).sum

theorem sumLN_append (a b : Bytes) : sumLN (a ++ b) = sumLN a + sumLN b := by
  simp only [sumLN, List.map_append, List.sum_append]

theorem leadNibble_zero_iff (b : UInt8) : leadNibble b = 0 ↔ (0x80 ≤ b.toNat ∧ b.toNat ≤ 0xBF) := by
  unfold leadNibble; simp only []; split <;> omega

theorem leadNibble_le (b : UInt8) : leadNibble b ≤ 1 := by
  unfold leadNibble; simp only []; split <;> omega

/-- the SWAR step `count += 8 - popcount(continuation bits)` -/
theorem sumLN_add_countP (l : Bytes) : sumLN l + l.countP (fun b => leadNibble b == 0) = l.length := by
  induction l with
  | nil => rfl
  | cons b t ih =>
    have := leadNibble_le b
    simp only [sumLN, List.map_cons, List.sum_cons, List.countP_cons, List.length_cons, beq_iff_eq] at ih ⊢
    split <;> omega

theorem countBytes_spec (s : Bytes) (fuel i stop acc : Nat) (hstop : stop ≤ s.length) (hf : stop - i ≤ fuel) :
    countBytes s fuel i stop acc = some (acc + sumLN (window s i stop)) := by
  induction fuel generalizing i acc with
  | zero => rw [window_of_le s (by omega)]; rfl
  | succ f ih =>
    simp only [countBytes]
    split
    · rename_i hi
      rw [List.getElem?_eq_getElem (by omega), window_cons s hi hstop]
      simp only []
      rw [ih (i + 1) _ (by omega)]
      simp only [sumLN, List.map_cons, List.sum_cons, Nat.add_assoc]
    · rw [window_of_le s (by omega)]; rfl

theorem countBlocks_spec (s : Bytes) (fuel i n acc : Nat) (hstop : i + 8 * n ≤ s.length) (hf : n ≤ fuel) :
    countBlocks s fuel i (i + 8 * n) acc = some (i + 8 * n, acc + sumLN (window s i (i + 8 * n))) := by
  induction fuel generalizing i n acc with
  | zero =>
    obtain rfl : n = 0 := by omega
    rw [window_of_le s (by omega)]; rfl
  | succ f ih =>
    rcases n with _ | n
    · rw [countBlocks, if_neg (by omega), window_of_le s (by omega)]; rfl
    have hsum := sumLN_add_countP (window s i (i + 8))
    rw [window_length s (by omega), window_block] at hsum
    rw [countBlocks, if_pos (by omega), if_pos (by omega), show i + 8 * (n + 1) = i + 8 + 8 * n by omega,
      ih (i + 8) n _ (by omega) (by omega),
      window_append s (Nat.le_add_right i 8) (Nat.le_add_right _ _), sumLN_append, window_block]
    congr 2; omega

end Gpc.Utf8
