import Gpc.Model.Arena
/-! The arena's invariant, and what `alloc`, `rewind`, `realloc` and `forget` do to a node list whose head is known. -/
namespace Gpc.Arena

theorem roundUp_bounds (x b : Nat) (hb : 0 < b) : x ≤ roundUp x b ∧ roundUp x b < x + b := by
  unfold roundUp
  have h1 := Nat.div_add_mod (x + b - 1) b
  have h2 := Nat.mod_lt (x + b - 1) hb
  rw [Nat.mul_comm]
  omega

theorem roundUp_ge (x b : Nat) (hb : 0 < b) : x ≤ roundUp x b := (roundUp_bounds x b hb).1

theorem roundUp_lt (x b : Nat) (hb : 0 < b) : roundUp x b < x + b := (roundUp_bounds x b hb).2

theorem roundUp_mod (x b : Nat) : roundUp x b % b = 0 := Nat.mul_mod_left _ _

theorem roundUp_zero (b : Nat) : roundUp 0 b = 0 := by
  unfold roundUp
  rcases Nat.eq_zero_or_pos b with h | h
  · simp [h]
  · rw [Nat.div_eq_of_lt (by omega), Nat.zero_mul]

theorem roundUp_mono (x y b : Nat) (h : x ≤ y) : roundUp x b ≤ roundUp y b :=
  Nat.mul_le_mul_right _ (Nat.div_le_div_right (Nat.sub_le_sub_right (Nat.add_le_add_right h b) 1))

/-- blocks newest first: each ends at or below the bound and is aligned, the older ones lie below its start -/
def BlocksOk (al : Nat) : List Blk → Nat → Prop
  | [], _ => True
  | b :: rest, bound => b.off + roundUp b.size al ≤ bound ∧ b.off % al = 0 ∧ BlocksOk al rest b.off

theorem BlocksOk.mono {al : Nat} {bs : List Blk} {p q : Nat} (h : BlocksOk al bs p) (hpq : p ≤ q) :
    BlocksOk al bs q := by
  cases bs with
  | nil => trivial
  | cons b rest => exact ⟨Nat.le_trans h.1 hpq, h.2.1, h.2.2⟩

theorem BlocksOk.mem {al : Nat} {bs : List Blk} {p : Nat} (h : BlocksOk al bs p) {c : Blk} (hc : c ∈ bs) :
    c.off + roundUp c.size al ≤ p ∧ c.off % al = 0 := by
  induction bs generalizing p with
  | nil => cases hc
  | cons b rest ih =>
    rcases List.mem_cons.1 hc with rfl | e
    · exact ⟨h.1, h.2.1⟩
    · exact ⟨Nat.le_trans (ih h.2.2 e).1 (Nat.le_trans (Nat.le_add_right _ _) h.1), (ih h.2.2 e).2⟩

theorem BlocksOk.aligned {al : Nat} {bs : List Blk} {p : Nat} (h : BlocksOk al bs p) :
    ∀ c ∈ bs, c.off % al = 0 :=
  fun _ hc => (h.mem hc).2

theorem BlocksOk.pairwise {al : Nat} {bs : List Blk} {p : Nat} (h : BlocksOk al bs p) :
    bs.Pairwise fun newer older => older.off + roundUp older.size al ≤ newer.off := by
  induction bs generalizing p with
  | nil => exact .nil
  | cons b rest ih => exact .cons (fun _ hc => (h.2.2.mem hc).1) (ih h.2.2)

theorem BlocksOk.filter {al : Nat} {bs : List Blk} {p : Nat} (f : Blk → Bool) (h : BlocksOk al bs p) :
    BlocksOk al (bs.filter f) p := by
  induction bs generalizing p with
  | nil => trivial
  | cons b rest ih =>
    rw [List.filter_cons]
    split
    · exact ⟨h.1, h.2.1, ih h.2.2⟩
    · exact (ih h.2.2).mono (Nat.le_trans (Nat.le_add_right _ _) h.1)

theorem BlocksOk.rewind {al : Nat} {bs : List Blk} {p : Nat} (h : BlocksOk al bs p) (t : Blk) (ht : t ∈ bs) :
    BlocksOk al (bs.filter (fun b => decide (b.off < t.off))) t.off := by
  induction bs generalizing p with
  | nil => cases ht
  | cons b rest ih =>
    rcases List.mem_cons.1 ht with rfl | e
    · rw [List.filter_cons_of_neg (by simp)]
      exact h.2.2.filter _
    · -- the newest block starts at or above the end of `t`: it goes
      have := (h.2.2.mem e).1
      rw [List.filter_cons_of_neg (by simp only [decide_eq_true_eq]; omega)]
      exact ih h.2.2 e

structure NodeOk (al : Nat) (n : Node) : Prop where
  pos_le : n.pos ≤ n.cap
  pos_al : n.pos % al = 0
  blocks : BlocksOk al n.blocks n.pos

/-- Blocks of different nodes cannot overlap (separate `malloc` regions), so nothing relates the nodes to each other. -/
structure Inv (a : Arena) : Prop where
  al_pos : 0 < a.align
  nonempty : a.nodes ≠ []
  nodes : ∀ n ∈ a.nodes, NodeOk a.align n

/-- what `rewind`, and `realloc` of its last block, leave of a node -/
abbrev Node.cut (n : Node) (off : Nat) : Node :=
  { n with pos := off, blocks := n.blocks.filter (fun b => b.off < off) }

theorem NodeOk.cut {al : Nat} {n : Node} (h : NodeOk al n) {t : Blk} (ht : t ∈ n.blocks) : NodeOk al (n.cut t.off) :=
  have hm := h.blocks.mem ht
  ⟨Nat.le_trans (Nat.le_trans (Nat.le_add_right _ _) hm.1) h.pos_le, hm.2, h.blocks.rewind t ht⟩

theorem inv_cons {a : Arena} {hd : Node} {tl : List Node} (h : a.nodes = hd :: tl) :
    Inv a ↔ 0 < a.align ∧ NodeOk a.align hd ∧ ∀ n ∈ tl, NodeOk a.align n := by
  constructor
  · intro i
    have := i.nodes
    rw [h, List.forall_mem_cons] at this
    exact ⟨i.al_pos, this⟩
  · intro ⟨ha, hn⟩
    exact ⟨ha, by simp [h], by rw [h, List.forall_mem_cons]; exact hn⟩

theorem Inv.exists_cons {a : Arena} (h : Inv a) :
    ∃ hd tl, a.nodes = hd :: tl ∧ NodeOk a.align hd ∧ ∀ n ∈ tl, NodeOk a.align n := by
  obtain ⟨hd, tl, hnodes⟩ := List.exists_cons_of_ne_nil h.nonempty
  exact ⟨hd, tl, hnodes, ((inv_cons hnodes).1 h).2⟩

/-- `alloc` bumps the head node, or pushes a node of some capacity not below the rounded request -/
theorem alloc_cases (g : Nat → Nat) {a : Arena} {hd : Node} {tl : List Node} (h : a.nodes = hd :: tl) (n : Nat) :
    (hd.pos + roundUp n a.align ≤ hd.cap ∧
      alloc g a n = ({ a with nodes := { hd with pos := hd.pos + roundUp n a.align,
                                                 blocks := ⟨hd.pos, n⟩ :: hd.blocks } :: tl }, ⟨tl.length, hd.pos⟩)) ∨
    (hd.cap < hd.pos + roundUp n a.align ∧ ∃ cap, roundUp n a.align ≤ cap ∧
      alloc g a n = ({ a with nodes := ⟨cap, roundUp n a.align, [⟨0, n⟩]⟩ :: hd :: tl }, ⟨tl.length + 1, 0⟩)) := by
  unfold alloc allocRaw
  rw [h]
  by_cases hfit : hd.pos + roundUp n a.align > hd.cap
  · exact Or.inr ⟨hfit, _, Nat.le_max_left _ _, if_pos hfit⟩
  · exact Or.inl ⟨by omega, if_neg hfit⟩

theorem rewind_eq {a : Arena} {newer : List Node} {n : Node} {older : List Node} (h : a.nodes = newer ++ n :: older)
    {p : Addr} (hp : p.node = older.length) (hc : p.off ≤ n.cap) :
    rewind a p = some { a with nodes := n.cut p.off :: older } := by
  have hd : a.nodes.length - 1 - p.node = newer.length := by simp [h, hp]
  simp only [rewind, hd]
  simp [h, hp, hc]

theorem realloc_eq (g : Nat → Nat) {a : Arena} {hd : Node} {tl : List Node} (h : a.nodes = hd :: tl)
    (p : Addr) (old new : Nat) :
    realloc g a p old new =
      if p.node = tl.length ∧ p.off + roundUp old a.align = hd.pos then
        let r := alloc g { a with nodes := hd.cut p.off :: tl } new
        ⟨r.1, r.2, if r.2 = p then none else some (p, r.2, old)⟩
      else ⟨forget (alloc g a new).1 p, (alloc g a new).2, some (p, (alloc g a new).2, min old new)⟩ := by
  unfold realloc alloc
  rw [h]

theorem forgetAt_eq_modify (ns : List Node) (i off : Nat) :
    forgetAt ns i off = ns.modify i fun n => { n with blocks := n.blocks.filter (fun b => b.off ≠ off) } := by
  induction ns generalizing i with
  | nil => rw [forgetAt, List.modify_nil]
  | cons n t ih => cases i with
    | zero => rfl
    | succ j => rw [forgetAt, ih, List.modify_succ_cons]

theorem inv_forget {a : Arena} (h : Inv a) (p : Addr) : Inv (forget a p) := by
  refine ⟨h.al_pos, ?_, ?_⟩ <;> simp only [forget, forgetAt_eq_modify]
  · exact fun e => h.nonempty (List.modify_eq_nil_iff.1 e)
  · intro n hn
    obtain ⟨j, hj, rfl⟩ := List.getElem_of_mem hn
    have hok := h.nodes _ (List.getElem_mem (by simpa using hj))
    rw [List.getElem_modify]
    split
    · exact ⟨hok.pos_le, hok.pos_al, hok.blocks.filter _⟩
    · exact hok

end Gpc.Arena
