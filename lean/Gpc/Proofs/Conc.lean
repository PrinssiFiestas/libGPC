import Gpc.Model.Conc
import Gpc.Proofs.List
/-! Lemmas for C14: the per-thread invariants of the lock skeletons and of the lock-bracketed sections, the
counters, the get-or-create cache. -/
namespace Gpc.Conc

def Cfg.init (progs : Nat → List Act) : Cfg := { owner := fun _ => none, th := fun t => ⟨[], progs t⟩ }

/-- thread `t` owns each mutex it holds, once (so nobody else holds it), and the rest of its program is guarded
from them -/
structure ThInv (g : Nat → Option Nat) (c : Cfg) (t : Nat) : Prop where
  owns : ∀ m ∈ (c.th t).held, c.owner m = some t
  nodup : (c.th t).held.Nodup
  guarded : guardedFrom g (c.th t).held (c.th t).rest = true

def Inv (g : Nat → Option Nat) (c : Cfg) : Prop := ∀ t, ThInv g c t

theorem inv_init (g : Nat → Option Nat) (progs : Nat → List Act) (h : ∀ t, guardedFrom g [] (progs t) = true) :
    Inv g (Cfg.init progs) := fun t => ⟨by simp [Cfg.init], by simp [Cfg.init], by simpa [Cfg.init] using h t⟩

@[simp] theorem setTh_self (th : Nat → TS) (t : Nat) (x : TS) : setTh th t x t = x := if_pos rfl
theorem setTh_ne (th : Nat → TS) {t u : Nat} (x : TS) (h : u ≠ t) : setTh th t x u = th u := if_neg h

theorem guardedFrom_cons_other {g : Nat → Option Nat} {held : List Nat} {a : Act} {r : List Act}
    (hl : ∀ m, a ≠ .lock m) (hu : ∀ m, a ≠ .unlock m) :
    guardedFrom g held (a :: r) = (a.access.all (accessOk g held) && guardedFrom g held r) := by
  cases a with
  | lock m => exact absurd rfl (hl m)
  | unlock m => exact absurd rfl (hu m)
  | _ => rfl

theorem ThInv.frame {g : Nat → Option Nat} {c c' : Cfg} {u : Nat} (h : ThInv g c u) (hth : c'.th u = c.th u)
    (hown : ∀ m ∈ (c.th u).held, c'.owner m = c.owner m) : ThInv g c' u := by
  refine ⟨fun m hm => ?_, hth ▸ h.nodup, hth ▸ h.guarded⟩
  rw [hth] at hm; rw [hown m hm]; exact h.owns m hm

theorem inv_step (g : Nat → Option Nat) (c c' : Cfg) (t : Nat) (h : Inv g c) (hs : step? c t = some c') : Inv g c' := by
  have ht := h t
  have hg := ht.guarded
  unfold step? at hs
  split at hs
  · cases hs
  · -- lock m, which must be free: no other thread holds it
    rename_i m r hrest
    split at hs <;> cases hs
    rename_i hfree
    rw [hrest] at hg
    intro u
    by_cases hut : u = t
    · subst hut
      refine ⟨fun m' hm' => ?_, ?_, by simpa [guardedFrom] using hg⟩
      · simp only [setTh_self, List.mem_cons] at hm'
        simp only [setOwner]; split
        · rfl
        · exact ht.owns m' (hm'.resolve_left ‹_›)
      · simp only [setTh_self]
        exact List.nodup_cons.mpr ⟨fun hm => by simpa [hfree] using ht.owns m hm, ht.nodup⟩
    · refine (h u).frame (setTh_ne _ _ hut) fun m' hm' => ?_
      simp only [setOwner]; split
      · subst m'; simpa [hfree] using (h u).owns m hm'
      · rfl
  · -- unlock m, held by t: no other thread holds it
    rename_i m r hrest
    split at hs <;> cases hs
    rename_i hown
    rw [hrest] at hg
    intro u
    by_cases hut : u = t
    · subst hut
      refine ⟨fun m' hm' => ?_, ?_, by simpa [guardedFrom] using hg⟩
      · simp only [setTh_self] at hm'
        have hne : m' ≠ m := fun e => ((List.Nodup.mem_erase_iff ht.nodup).mp hm').1 e
        simp only [setOwner, if_neg hne]
        exact ht.owns m' (List.mem_of_mem_erase hm')
      · simp only [setTh_self]; exact ht.nodup.erase m
    · refine (h u).frame (setTh_ne _ _ hut) fun m' hm' => ?_
      simp only [setOwner]; split
      · subst m'; exact absurd (Option.some.inj ((h u).owns m hm' ▸ hown)) hut
      · rfl
  · -- any other action: only the program counter moves
    rename_i a r hl hu hrest
    cases hs
    rw [hrest] at hg
    intro u
    by_cases hut : u = t
    · subst hut
      rw [guardedFrom_cons_other hl hu] at hg
      exact ⟨by simpa using ht.owns, by simpa using ht.nodup, by simpa using (Bool.and_eq_true_iff.1 hg).2⟩
    · exact (h u).frame (setTh_ne _ _ hut) fun _ _ => rfl

theorem inv_reach (g : Nat → Option Nat) (c0 c : Cfg) (h0 : Inv g c0) (hr : Reach c0 c) : Inv g c := by
  induction hr with
  | refl => exact h0
  | step t _ hs ih => exact inv_step g _ _ t ih hs

theorem accessOk_iff {g : Nat → Option Nat} {held : List Nat} {v : Nat} {k : Kind} :
    accessOk g held (v, k) = true ↔
      match g v with
      | none => k = .a
      | some m => k ≠ .a ∧ m ∈ held := by
  cases k <;> cases hg : g v <;> simp [accessOk, heldGuard, hg]

theorem guarded_head {g : Nat → Option Nat} {held : List Nat} {a : Act} {r : List Act} {v : Nat} {k : Kind}
    (ha : a.access = some (v, k)) (h : guardedFrom g held (a :: r) = true) : accessOk g held (v, k) = true := by
  rw [guardedFrom_cons_other (fun m e => by rw [e] at ha; cases ha) (fun m e => by rw [e] at ha; cases ha), ha] at h
  exact (Bool.and_eq_true_iff.1 h).1

theorem ThInv.next_access {g : Nat → Option Nat} {c : Cfg} {t : Nat} (h : ThInv g c t) {a : Act} {r : List Act}
    {v : Nat} {k : Kind} (hr : (c.th t).rest = a :: r) (ha : a.access = some (v, k)) :
    match g v with
    | none => k = .a
    | some m => c.owner m = some t := by
  have ok := accessOk_iff.1 (guarded_head ha (hr ▸ h.guarded))
  split at ok
  · exact ok
  · exact h.owns _ ok.2

/-- two threads about to access `v`: without a guard both accesses are atomic and do not conflict; with a guard
both threads own it, so they are one thread -/
theorem no_race_of_inv (g : Nat → Option Nat) (c : Cfg) (h : Inv g c) : ¬ Race c := by
  rintro ⟨t1, t2, a1, a2, r1, r2, v, k1, k2, hne, h1, h2, ha1, ha2, hc⟩
  have o1 := (h t1).next_access h1 ha1
  have o2 := (h t2).next_access h2 ha2
  cases hg : g v with
  | none => rw [hg] at o1 o2; subst o1 o2; cases hc
  | some m => rw [hg] at o1 o2; exact hne (Option.some.inj (o1 ▸ o2))

theorem guardedFrom_append (g : Nat → Option Nat) (held : List Nat) (p q : List Act) :
    guardedFrom g held (p ++ q) = (guardedFrom g held p && guardedFrom g (heldAfter held p) q) := by
  induction p generalizing held with
  | nil => simp [guardedFrom, heldAfter]
  | cons a r ih =>
    cases a <;> simp [guardedFrom, heldAfter, ih, Bool.and_assoc]

theorem guarded_flatten (g : Nat → Option Nat) (ps : List (List Act))
    (h : ∀ p ∈ ps, guardedFrom g [] p = true ∧ closed p = true) : guardedFrom g [] ps.flatten = true := by
  induction ps with
  | nil => simp [guardedFrom]
  | cons p r ih =>
    have hp := h p (by simp)
    have hc : heldAfter [] p = [] := by simpa [closed] using hp.2
    simp only [List.flatten_cons, guardedFrom_append, hp.1, hc, Bool.true_and]
    exact ih (fun q hq => h q (by simp [hq]))

section Lin
variable {σ α β : Type} (f : σ → α → σ × β)

theorem seqRun_append_one (s0 : σ) (l : List α) (a : α) :
    seqRun f s0 (l ++ [a]) =
      ((f (seqRun f s0 l).1 a).1, (seqRun f s0 l).2 ++ [(f (seqRun f s0 l).1 a).2]) := by
  induction l generalizing s0 with
  | nil => simp [seqRun]
  | cons x r ih => simp [seqRun, ih]

theorem seqRun_invariant {P : σ → Prop} (hf : ∀ s a, P s → P (f s a).1) (s : σ) (l : List α) (h : P s) :
    P (seqRun f s l).1 := by
  induction l generalizing s with
  | nil => exact h
  | cons a r ih => exact ih _ (hf s a h)

@[simp] theorem setSTh_self (th : Nat → STh σ α) (t : Nat) (x : STh σ α) : setSTh th t x t = x := if_pos rfl
theorem setSTh_ne (th : Nat → STh σ α) {t u : Nat} (x : STh σ α) (h : u ≠ t) : setSTh th t x u = th u := if_neg h

/-- thread `t` is in its critical section only as the owner, a value it has read is still current, and its
script is what it has done plus what it has left -/
structure SThInv (scripts : Nat → List α) (c : Sec σ α β) (t : Nat) : Prop where
  excl : (c.th t).phase ≠ .idle → c.owner = some t
  fresh : ∀ s, (c.th t).phase = .haveRead s → s = c.shared
  prog : scripts t = c.doneBy t ++ (c.th t).pending

structure SInv (s0 : σ) (scripts : Nat → List α) (c : Sec σ α β) : Prop where
  seq : seqRun f s0 c.log = (c.shared, c.outs)
  th : ∀ t, SThInv scripts c t

theorem sinv_init (s0 : σ) (scripts : Nat → List α) : SInv f s0 scripts (Sec.init s0 scripts : Sec σ α β) :=
  ⟨rfl, fun _ => ⟨fun h => absurd rfl h, nofun, rfl⟩⟩

/-- a step of thread `t` that leaves the other threads and their finished calls alone keeps the invariant once it holds
again of the sequential run and of `t`: while `t` can move (the section is free or `t` is inside it) every other thread
is idle, and an idle thread's part reads only its own state and its finished calls -/
theorem SInv.step {s0 : σ} {scripts : Nat → List α} {c c' : Sec σ α β} {t : Nat} (h : SInv f s0 scripts c)
    (hmove : c.owner = none ∨ (c.th t).phase ≠ .idle)
    (hth : ∀ u, u ≠ t → c'.th u = c.th u) (hdone : ∀ u, u ≠ t → c'.doneBy u = c.doneBy u)
    (hseq : seqRun f s0 c'.log = (c'.shared, c'.outs)) (ht : SThInv scripts c' t) : SInv f s0 scripts c' := by
  refine ⟨hseq, fun u => ?_⟩
  by_cases e : u = t
  · exact e ▸ ht
  have hidle : (c.th u).phase = .idle := Classical.byContradiction fun hn => by
    have hou := (h.th u).excl hn
    rcases hmove with hf | hf
    · rw [hf] at hou; cases hou
    · exact e (Option.some.inj (hou ▸ (h.th t).excl hf))
  refine ⟨fun hn => absurd (hth u e ▸ hidle) hn, fun s hs => ?_, by rw [hth u e, hdone u e]; exact (h.th u).prog⟩
  rw [hth u e, hidle] at hs; cases hs

theorem sinv_step (s0 : σ) (scripts : Nat → List α) (c c' : Sec σ α β) (t : Nat)
    (h : SInv f s0 scripts c) (hs : Sec.step? f c t = some c') : SInv f s0 scripts c' := by
  have ht := h.th t
  have hth (x : STh σ α) (u : Nat) (e : u ≠ t) : setSTh c.th t x u = c.th u := setSTh_ne _ _ e
  unfold Sec.step? at hs
  split at hs
  · cases hs
  · -- idle → locked
    rename_i a rest hph htodo
    split at hs <;> cases hs
    rename_i hfree
    exact h.step f (Or.inl hfree) (hth _) (fun _ _ => rfl) h.seq
      ⟨fun _ => rfl, by simp, by simpa [Sec.doneBy, STh.pending, hph] using ht.prog⟩
  · -- locked → haveRead
    rename_i a rest hph htodo
    cases hs
    have hn : (c.th t).phase ≠ .idle := by simp [hph]
    exact h.step f (Or.inr hn) (hth _) (fun _ _ => rfl) h.seq
      ⟨fun _ => ht.excl hn, by simp, by simpa [Sec.doneBy, STh.pending, hph] using ht.prog⟩
  · -- haveRead → written: the call takes effect
    rename_i s a rest hph htodo
    cases hs
    have hn : (c.th t).phase ≠ .idle := by simp [hph]
    obtain rfl := ht.fresh s hph
    refine h.step f (Or.inr hn) (hth _)
      (fun u e => by simp [Sec.doneBy, List.filter_append, Ne.symm e]) ?_ ⟨fun _ => ht.excl hn, by simp, ?_⟩
    · have hq := h.seq
      simp only [Sec.log, Sec.outs, List.map_append, List.map_cons, List.map_nil] at hq ⊢
      rw [seqRun_append_one, hq]
    · have := ht.prog
      simp [Sec.doneBy, STh.pending, hph, htodo, List.filter_append] at this ⊢
      rw [this]
  · -- written → idle
    rename_i a rest hph htodo
    cases hs
    have hn : (c.th t).phase ≠ .idle := by simp [hph]
    exact h.step f (Or.inr hn) (hth _) (fun _ _ => rfl) h.seq
      ⟨by simp, by simp [setSTh], by simpa [Sec.doneBy, STh.pending, hph, htodo] using ht.prog⟩

theorem sinv_reach (s0 : σ) (scripts : Nat → List α) (c : Sec σ α β)
    (hr : Sec.Reach f (Sec.init s0 scripts) c) : SInv f s0 scripts c := by
  induction hr with
  | refl => exact sinv_init f s0 scripts
  | step t _ hs ih => exact sinv_step f s0 scripts _ _ t ih hs

end Lin

theorem ctr_step (c c' : Ctr) (t : Nat) (hs : Ctr.step? c t = some c') :
    c'.count + c'.rem.sum = c.count + c.rem.sum := by
  unfold Ctr.step? at hs
  split at hs
  · rename_i k hk
    cases hs
    have := sum_set_pred c.rem t k hk
    simp only []; omega
  · cases hs

theorem ctr_reach (c0 c : Ctr) (hr : Ctr.Reach c0 c) : c.count + c.rem.sum = c0.count + c0.rem.sum := by
  induction hr with
  | refl => rfl
  | step t _ hs ih => rw [ctr_step _ _ t hs, ih]

theorem getOrCreate_self (c : Cache) (k : Nat) : (getOrCreate c k).1.table.lookup k = some (getOrCreate c k).2 := by
  unfold getOrCreate
  cases h : c.table.lookup k with
  | some v => simp [h]
  | none => simp

theorem getOrCreate_stable (c : Cache) (k k' v : Nat) (h : c.table.lookup k = some v) :
    (getOrCreate c k').1.table.lookup k = some v := by
  unfold getOrCreate
  split
  · exact h
  · -- `k'` is new, so it is not `k`
    rename_i h'
    have hne : k ≠ k' := fun e => by rw [e, h'] at h; cases h
    simpa [List.lookup_cons, beq_false_of_ne hne] using h

/-- every result of a sequential run is what the final table holds for its key -/
theorem seqRun_results_in_final (c : Cache) (ks : List Nat) (i : Nat) :
    (seqRun getOrCreate c ks).2[i]? = ks[i]?.bind fun k => (seqRun getOrCreate c ks).1.table.lookup k := by
  induction ks generalizing c i with
  | nil => rfl
  | cons a r ih =>
    cases i with
    | zero =>
      -- the first call's result stays in the table: no later call changes what a key holds
      simp [seqRun, seqRun_invariant getOrCreate (fun c k' => getOrCreate_stable c a k' _) _ r (getOrCreate_self c a)]
    | succ i => simpa [seqRun] using ih _ i

end Gpc.Conc
