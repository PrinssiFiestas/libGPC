/-! Facts about core's natural numbers that several modules use and core does not state: a word as two halves
`a * 2 ^ n + b`, `b < 2 ^ n`, under the bitwise operations (masks, tags, fields); one step of positional notation.
Nothing here mentions the model. -/
namespace Gpc

/-- a bitwise operation works on the two halves of a word separately -/
theorem bitwise_concat {f : Bool → Bool → Bool} (hf : f false false = false) (n a b m k : Nat)
    (hb : b < 2 ^ n) (hk : k < 2 ^ n) :
    Nat.bitwise f (a * 2 ^ n + b) (m * 2 ^ n + k) = Nat.bitwise f a m * 2 ^ n + Nat.bitwise f b k := by
  rw [← Nat.div_add_mod (Nat.bitwise f (a * 2 ^ n + b) (m * 2 ^ n + k)) (2 ^ n), Nat.bitwise_div_two_pow hf,
    Nat.bitwise_mod_two_pow hf, Nat.mul_comm a, Nat.mul_comm m, Nat.mul_add_div (Nat.two_pow_pos n),
    Nat.mul_add_div (Nat.two_pow_pos n), Nat.mul_add_mod, Nat.mul_add_mod, Nat.div_eq_of_lt hb, Nat.div_eq_of_lt hk,
    Nat.mod_eq_of_lt hb, Nat.mod_eq_of_lt hk, Nat.add_zero, Nat.add_zero, Nat.mul_comm]

theorem and_concat_pow (n a b m k : Nat) (hb : b < 2 ^ n) (hk : k < 2 ^ n) :
    (a * 2 ^ n + b) &&& (m * 2 ^ n + k) = (a &&& m) * 2 ^ n + (b &&& k) :=
  bitwise_concat rfl n a b m k hb hk

theorem xor_concat_pow (n a b m k : Nat) (hb : b < 2 ^ n) (hk : k < 2 ^ n) :
    (a * 2 ^ n + b) ^^^ (m * 2 ^ n + k) = (a ^^^ m) * 2 ^ n + (b ^^^ k) :=
  bitwise_concat rfl n a b m k hb hk

theorem or_fields (hi lo k : Nat) (h : lo < 2 ^ k) : (hi * 2 ^ k) ||| lo = hi * 2 ^ k + lo := by
  rw [← Nat.shiftLeft_eq, Nat.shiftLeft_add_eq_or_of_lt h]

theorem or_tag (t v k : Nat) (h : v < 2 ^ k) : v ||| t * 2 ^ k = t * 2 ^ k + v := by
  rw [Nat.or_comm, or_fields t v k h]

/-- a `w`-bit field at bit `k`, shifted down by `s ≤ k`, as div/mod arithmetic -/
theorem field (c w k s : Nat) (h : s ≤ k) :
    (c &&& ((2 ^ w - 1) <<< k)) >>> s = c / 2 ^ k % 2 ^ w * 2 ^ (k - s) := by
  have e : c &&& ((2 ^ w - 1) <<< k) = (c / 2 ^ k % 2 ^ w) * 2 ^ k := by
    have := and_concat_pow k (c / 2 ^ k) (c % 2 ^ k) (2 ^ w - 1) 0 (Nat.mod_lt _ (Nat.two_pow_pos k))
      (Nat.two_pow_pos k)
    rw [Nat.and_zero, Nat.add_zero, Nat.add_zero, Nat.and_two_pow_sub_one_eq_mod, Nat.mul_comm (c / 2 ^ k),
      Nat.div_add_mod] at this
    rw [Nat.shiftLeft_eq, this]
  rw [e, Nat.shiftRight_eq_div_pow]
  obtain ⟨d, rfl⟩ : ∃ d, k = s + d := ⟨k - s, by omega⟩
  rw [Nat.pow_add, Nat.add_sub_cancel_left, Nat.mul_comm (2 ^ s), ← Nat.mul_assoc,
    Nat.mul_div_cancel _ (Nat.two_pow_pos s)]

/-- with `Nat.mul_add_mod_of_lt`: the last digit of `x * B + d` is `d`, the others are those of `x` -/
theorem digit_div {x d B : Nat} (h : d < B) : (x * B + d) / B = x := by
  rw [Nat.mul_comm, Nat.mul_add_div (Nat.zero_lt_of_lt h), Nat.div_eq_of_lt h, Nat.add_zero]

end Gpc
