import Gpc.Model.CaseMap
import Gpc.Ucd.Case
/-! The orbit walk of `gp_str_equal_case` along a class listed in increasing cyclic order; lookups in the table trees. -/
namespace Gpc.CaseMap
open Gpc.CaseTable

/-- starting at `x`, `F` visits the members of `l` in order and then arrives at `z` -/
def steps (F : Nat → Nat) : Nat → List Nat → Nat → Bool
  | x, [], z => F x == z
  | x, y :: l, z => F x == y && steps F y l z

theorem steps_append (F : Nat → Nat) (x y z : Nat) (l₁ l₂ : List Nat) :
    steps F x (l₁ ++ y :: l₂) z = (steps F x l₁ y && steps F y l₂ z) := by
  induction l₁ generalizing x with
  | nil => rfl
  | cons w l ih => simp [steps, ih, Bool.and_assoc]

/-- The loop `while (cp != a && cp < b)` stops at the first member that is not below `b`: it stops at `b`
itself provided every member before an occurrence of `b` is below `b` (the `Pairwise` hypothesis). -/
theorem walk_steps {F : Nat → Nat} {a b : Nat} (hab : a < b) :
    ∀ (l : List Nat) (x fuel : Nat), l.length ≤ fuel → steps F x l a = true → (∀ y ∈ l, y ≠ a) →
      l.Pairwise (fun y z => z = b → y < b) → (walk F a b fuel (F x) = true ↔ b ∈ l) := by
  intro l
  induction l with
  | nil =>
    intro x fuel _ hs _ _
    simp only [steps, beq_iff_eq] at hs
    -- back at `a` the loop ends, and `a` is not `b`
    have hw : walk F a b fuel a = (a == b) := by
      cases fuel with
      | zero => rfl
      | succ f => exact if_neg fun h => h.1 rfl
    rw [hs, hw, beq_eq_false_iff_ne.2 (Nat.ne_of_lt hab)]
    exact ⟨fun h => absurd h Bool.false_ne_true, fun h => absurd h List.not_mem_nil⟩
  | cons y l ih =>
    intro x fuel hf hs hne hp
    simp only [steps, Bool.and_eq_true, beq_iff_eq] at hs
    obtain ⟨f, rfl⟩ : ∃ f, fuel = f + 1 := ⟨fuel - 1, by simp at hf; omega⟩
    rw [List.pairwise_cons] at hp
    simp only [walk, hs.1, List.mem_cons]
    by_cases hy : y < b
    · -- `y` is passed, and is not `b`
      rw [if_pos ⟨hne y (by simp), hy⟩, ih y f (by simp at hf; omega) hs.2 (fun z hz => hne z (by simp [hz])) hp.2]
      exact (or_iff_right (Nat.ne_of_gt hy)).symm
    · -- the loop stops at `y`; `b` cannot come later, since what precedes `b` is below `b`
      rw [if_neg (fun h => hy h.2), beq_iff_eq]
      exact ⟨fun h => Or.inl h.symm, fun h => h.elim Eq.symm fun h => absurd (hp.1 b h rfl) hy⟩

/-- `cl` is increasing and `F` maps each member to the next one, the last to the first -/
def cyclic (F : Nat → Nat) : List Nat → Prop
  | [] => False
  | x :: l => (x :: l).Pairwise (· < ·) ∧ steps F x l x = true

/-- the orbit walk of `gp_str_equal_case`, started at a member of a class, finds exactly the larger members -/
theorem walk_cyclic {F : Nat → Nat} {cl : List Nat} (hc : cyclic F cl) {a b fuel : Nat} (ha : a ∈ cl)
    (hab : a < b) (hf : cl.length ≤ fuel + 1) : walk F a b fuel (F a) = true ↔ b ∈ cl := by
  obtain _ | ⟨x, l⟩ := cl
  · exact absurd ha (by simp)
  obtain ⟨hs, hst⟩ := hc
  obtain ⟨pre, suf, e⟩ := List.append_of_mem ha
  rw [e, List.pairwise_append, List.pairwise_cons] at hs
  obtain ⟨hpre, ⟨hsuf, hss⟩, hps⟩ := hs
  have hlt : ∀ y ∈ pre, y < a := fun y hy => hps y hy a (by simp)
  -- the walk visits `suf`, then `pre`, then is back at `a`
  have key : steps F a (suf ++ pre) a = true := by
    cases pre with
    | nil => obtain ⟨rfl, rfl⟩ := List.cons.inj e; rwa [List.append_nil]
    | cons p pre =>
      rw [List.cons_append] at e
      obtain ⟨rfl, rfl⟩ := List.cons.inj e
      rw [steps_append, Bool.and_eq_true] at hst
      rw [steps_append, Bool.and_eq_true]; exact ⟨hst.2, hst.1⟩
  rw [walk_steps hab (suf ++ pre) a fuel (by rw [e] at hf; simp at hf ⊢; omega) key, e]
  · simp only [List.mem_append, List.mem_cons]
    constructor
    · rintro (h | h)
      · exact Or.inr (Or.inr h)
      · exact Or.inl h
    · rintro (h | h | h)
      · exact Or.inr h
      · omega
      · exact Or.inl h
  · intro y hy
    rcases List.mem_append.1 hy with h | h
    · have := hsuf y h; omega
    · have := hlt y h; omega
  · rw [List.pairwise_append]
    refine ⟨hss.imp (fun h _ => by omega), hpre.imp (fun h _ => by omega), ?_⟩
    intro y _ z hz e; have := hlt z hz; omega

theorem T.apply_ne (t : T) (c : Nat) (h : t.apply c ≠ c) : ∃ e ∈ t.toList, e.lo ≤ c ∧ c ≤ e.hi := by
  induction t with
  | nil => exact absurd rfl h
  | node l e r ihl ihr =>
    simp only [T.apply] at h
    simp only [T.toList, List.mem_append, List.mem_cons]
    by_cases h1 : c < e.lo
    · simp only [h1, if_true] at h
      obtain ⟨x, hx, hb⟩ := ihl h
      exact ⟨x, Or.inl hx, hb⟩
    · by_cases h2 : e.hi < c
      · simp only [h1, if_false, h2, if_true] at h
        obtain ⟨x, hx, hb⟩ := ihr h
        exact ⟨x, Or.inr (Or.inr hx), hb⟩
      · exact ⟨e, Or.inr (Or.inl rfl), by omega, by omega⟩

theorem CT.find_mem (t : CT) (x : Nat) (cl : List Nat) (h : t.find x = some cl) : (x, cl) ∈ t.toList := by
  induction t with
  | nil => simp [CT.find] at h
  | node l c k r ihl ihr =>
    simp only [CT.find] at h
    simp only [CT.toList, List.mem_append, List.mem_cons]
    by_cases h1 : x < c
    · simp only [h1, if_true] at h; exact Or.inl (ihl h)
    · by_cases h2 : c < x
      · simp only [h1, if_false, h2, if_true] at h; exact Or.inr (Or.inr (ihr h))
      · simp only [h1, h2, if_false, Option.some.injEq] at h
        have : x = c := by omega
        subst this; subst h; exact Or.inr (Or.inl rfl)

end Gpc.CaseMap
