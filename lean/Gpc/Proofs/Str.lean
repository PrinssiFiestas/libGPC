import Gpc.Model.Str
import Gpc.Proofs.Array
import Gpc.Proofs.Utf8Sync
import Gpc.Proofs.List
/-!
The fixed-buffer `gp_bytes_*` functions on a buffer whose content `c` is its first `len` bytes: each
succeeds when the result fits and leaves the buffer's size alone.  Then the byte-level facts about
code points under the UTF-8 loops of C04.
-/
namespace Gpc.Str
open Gpc.Arr (memmove memcpyIn memcpyIn_take memmove_front splice_spec write_spec)
open Gpc.Search (memmem OccursAt)
open Gpc.Utf8 (IsCp cpLen cpLen_cont)

theorem bAppend_spec (buf src c : Bytes) (len : Nat) (hc : buf.take len = c) (h : len + src.length ≤ buf.length) :
    ∃ b, bAppend buf len src = some (b, len + src.length) ∧ b.length = buf.length ∧
      b.take (len + src.length) = c ++ src := by
  obtain ⟨b, e, l, t, -⟩ := memcpyIn_take buf len src h
  exact ⟨b, by rw [bAppend, e]; rfl, l, hc ▸ t⟩

theorem bReplaceRange_spec (buf repl c : Bytes) (len start stop : Nat) (hc : buf.take len = c) (h1 : start ≤ stop)
    (h2 : stop ≤ len) (h3 : len ≤ buf.length) (h4 : start + repl.length + (len - stop) ≤ buf.length) :
    ∃ b, bReplaceRange buf len start stop repl = some (b, len + repl.length - (stop - start)) ∧ b.length = buf.length ∧
      b.take (len + repl.length - (stop - start)) = c.take start ++ repl ++ c.drop stop := by
  obtain ⟨b1, b, e1, e2, l, t⟩ := splice_spec buf repl c start stop len hc h1 h2 h3 h4
  refine ⟨b, by simp only [bReplaceRange, e1, e2, Option.map_some], l, ?_⟩
  rw [← t]; congr 1; omega

theorem bInsert_spec (buf src c : Bytes) (len pos : Nat) (hc : buf.take len = c) (hp : pos ≤ len)
    (h : len + src.length ≤ buf.length) :
    ∃ b, bInsert buf len pos src = some (b, len + src.length) ∧ b.length = buf.length ∧
      b.take (len + src.length) = c.take pos ++ src ++ c.drop pos := by
  have e : bInsert buf len pos src = bReplaceRange buf len pos pos src := by
    simp only [bInsert, bReplaceRange, Nat.sub_self, Nat.sub_zero]
  have := bReplaceRange_spec buf src c len pos pos hc (Nat.le_refl _) hp (by omega) (by omega)
  rwa [Nat.sub_self, Nat.sub_zero, ← e] at this

theorem bSliceSelf_spec (buf c : Bytes) (len start stop : Nat) (hc : buf.take len = c) (h1 : start ≤ stop)
    (h2 : stop ≤ len) (h3 : len ≤ buf.length) :
    ∃ b, bSliceSelf buf start stop = some (b, stop - start) ∧ b.length = buf.length ∧
      b.take (stop - start) = (c.drop start).take (stop - start) := by
  obtain ⟨b, e, l, t⟩ := memmove_front buf start (stop - start) (by omega)
  refine ⟨b, by rw [bSliceSelf, e]; rfl, l, ?_⟩
  rw [t, ← hc, List.drop_take, List.take_take, Nat.min_eq_left (by omega)]

theorem bSliceFrom_spec (buf src : Bytes) (start stop : Nat) (h2 : stop ≤ src.length)
    (h3 : stop - start ≤ buf.length) :
    ∃ b, bSliceFrom buf src start stop = some (b, stop - start) ∧ b.length = buf.length ∧
      b.take (stop - start) = (src.drop start).take (stop - start) := by
  have hl : ((src.drop start).take (stop - start)).length = stop - start := length_take_drop (by omega)
  obtain ⟨b, e, l, t⟩ := write_spec buf ((src.drop start).take (stop - start)) (by omega)
  rw [hl] at t
  exact ⟨b, by simp only [bSliceFrom, h2, if_true, e, Option.map_some], l, t⟩

theorem bRepeat_spec (buf mem : Bytes) (n : Nat) (h : n * mem.length ≤ buf.length) :
    ∃ b, bRepeat buf n mem = some (b, n * mem.length) ∧ b.length = buf.length ∧
      b.take (n * mem.length) = (List.replicate n mem).flatten := by
  have hl : (List.replicate n mem).flatten.length = n * mem.length := by
    rw [List.length_flatten, List.map_replicate, List.sum_replicate_nat]
  obtain ⟨b, e, l, t⟩ := write_spec buf (List.replicate n mem).flatten (by omega)
  rw [hl] at t
  exact ⟨b, by rw [bRepeat, e]; rfl, l, t⟩

theorem bFind_eq (buf c : Bytes) (len : Nat) (needle : Bytes) (start : Nat) (hc : buf.take len = c) (hs : start ≤ len) :
    bFind buf len needle start = (memmem (c.drop start) needle).map (· + start) := by
  simp [bFind, hs, hc]

/-- the right loop of a trim: of the content `b.take n`, the trailing members are cut off -/
theorem take_sub_suffix {α : Type} (p : α → Bool) (b : List α) (n : Nat) (right : Bool) (hn : n ≤ b.length) :
    b.take (n - if right then ((b.take n).reverse.takeWhile p).length else 0)
      = if right then ((b.take n).reverse.dropWhile p).reverse else b.take n := by
  cases right
  · rfl
  · have hl : (b.take n).length = n := by rw [List.length_take]; omega
    rw [if_pos rfl, if_pos rfl, ← drop_takeWhile_length p (b.take n).reverse, List.drop_reverse, List.reverse_reverse,
      hl, List.take_take, Nat.min_eq_left (Nat.sub_le _ _)]

/-- `trimSpec` and `trimCpSpec` of the empty content, whichever ends are trimmed -/
theorem trim_nil {α : Type} (p : α → Bool) (left right : Bool) :
    (if right then ((if left then ([] : List α).dropWhile p else []).reverse.dropWhile p).reverse
      else if left then ([] : List α).dropWhile p else []) = [] := by
  cases left <;> cases right <;> rfl

/-- a code point set given as a C string: `cs` lists its code points, none has a NUL byte, and the
set string the library's `strstr` tests run on is `cs.flatten` -/
structure CpSet (cs : List Bytes) : Prop where
  isCp : ∀ x ∈ cs, IsCp x
  noNul : ∀ x ∈ cs, (0 : UInt8) ∉ x

/-- a text as the list of its code points; its bytes are `l.flatten` -/
def Cps (l : List Bytes) : Prop := ∀ x ∈ l, IsCp x

theorem Cps.head {x : Bytes} {l : List Bytes} (h : Cps (x :: l)) : IsCp x := h x List.mem_cons_self
theorem Cps.tail {x : Bytes} {l : List Bytes} (h : Cps (x :: l)) : Cps l := fun y hy => h y (List.mem_cons_of_mem _ hy)
theorem Cps.right {l₁ l₂ : List Bytes} (h : Cps (l₁ ++ l₂)) : Cps l₂ := fun y hy => h y (List.mem_append_right _ hy)
theorem Cps.reverse {l : List Bytes} (h : Cps l) : Cps l.reverse := fun y hy => h y (List.mem_reverse.1 hy)

theorem isEmpty_of_isCp {c : Bytes} (h : IsCp c) : c.isEmpty = false := List.isEmpty_eq_false_iff.2 h.1

theorem headCp_eq (h rest : Bytes) (hh : IsCp h) : headCp (h ++ rest) = h := by
  obtain _ | ⟨b, t⟩ := h
  · exact absurd rfl hh.1
  · rw [List.cons_append, headCp, hh.cpLen, ← List.cons_append, List.take_left]

/-- scanning back from inside a code point stops at its lead byte: the bytes passed over are continuation bytes -/
theorem lastCpStart_spec (pre last post : Bytes) (hl : IsCp last) (j : Nat) (hj : j < last.length) (fuel : Nat) (hf : j ≤ fuel) :
    lastCpStart (pre ++ last ++ post) fuel (pre.length + j) = pre.length := by
  obtain _ | ⟨b, t⟩ := last
  · exact absurd rfl hl.1
  induction j generalizing fuel with
  | zero =>
    obtain _ | f := fuel
    · rfl
    have : (cpLen b == 0) = false := by rw [hl.cpLen]; rfl
    have h0 := getElem?_mid pre (b :: t) post 0 hj
    rw [Nat.add_zero] at h0
    simp only [lastCpStart, Nat.add_zero, h0, List.getElem?_cons_zero, this, Bool.false_and, Bool.false_eq_true, if_false]
  | succ k ih =>
    obtain _ | f := fuel
    · omega
    have hk : k < t.length := Nat.lt_of_succ_lt_succ hj
    have hne : (pre.length + (k + 1) != 0) = true := by rw [bne_iff_ne]; omega
    simp only [lastCpStart, getElem?_mid pre (b :: t) post (k + 1) hj, List.getElem?_cons_succ,
      List.getElem?_eq_getElem hk, cpLen_cont _ (hl.row.tail_cont _ (List.getElem_mem hk)), beq_self_eq_true, hne,
      Bool.and_self, if_true]
    exact ih f (Nat.le_of_succ_le_succ hf) (Nat.lt_of_succ_lt hj)

theorem Cps.length_le_flatten {l : List Bytes} (hl : Cps l) : l.length ≤ l.flatten.length :=
  Gpc.length_le_flatten l fun x hx => (hl x hx).1

end Gpc.Str
