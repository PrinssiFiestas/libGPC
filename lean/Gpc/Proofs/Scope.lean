import Gpc.Model.Scope
import Gpc.Proofs.Arena
/-! Geometry of the scope factory: which addresses hold records, and how alloc / rewind move them -/
namespace Gpc.Scope
open Gpc.Arena

/-- record addresses of the node with ordinal `t` holding `m` records, newest first (`64` is `recSize`) -/
def seg (t m : Nat) : List Addr := (List.range m).reverse.map fun k => ⟨t, k * 64⟩

/-- all record addresses of the factory arena, newest first (the last one is the factory itself) -/
def recAddrs : List Node → List Addr
  | [] => []
  | n :: tail => seg tail.length (n.pos / 64) ++ recAddrs tail

/-- the factory arena between operations: every node holds at least one record, so that `gp_last_scope_of`
(position minus one record) points at a record -/
structure NodesOk (a : Arena) : Prop where
  align : a.align = 16
  maxSize : a.maxSize = 2 ^ 15
  nonempty : a.nodes ≠ []
  nodes : ∀ n ∈ a.nodes, n.pos % 64 = 0 ∧ n.pos ≤ n.cap ∧ 64 ≤ n.pos

theorem upd_same (m : Addr → Option Rec) (a : Addr) (r : Rec) : upd m a r a = some r := if_pos rfl

theorem upd_other (m : Addr → Option Rec) {a b : Addr} (r : Rec) (h : b ≠ a) : upd m a r b = m b := if_neg h

theorem seg_succ (t m : Nat) : seg t (m + 1) = ⟨t, m * 64⟩ :: seg t m := by
  simp [seg, List.range_succ]

theorem seg_length (t m : Nat) : (seg t m).length = m := by simp [seg]

theorem seg_getElem (t m i : Nat) (h : i < (seg t m).length) :
    (seg t m)[i] = ⟨t, (m - 1 - i) * 64⟩ := by
  simp only [seg_length] at h
  simp [seg, List.getElem_reverse]

theorem seg_drop (t m j : Nat) : (seg t m).drop j = seg t (m - j) := by
  simp only [seg, ← List.map_drop, List.drop_reverse, List.length_range, List.take_range]
  congr 3
  omega

theorem seg_node (t m : Nat) : ∀ a ∈ seg t m, a.node = t := by
  intro a ha
  simp only [seg, List.mem_map] at ha
  obtain ⟨k, -, rfl⟩ := ha
  rfl

theorem seg_off (t m : Nat) : ∀ a ∈ seg t m, a.off < m * 64 ∧ a.off % 64 = 0 := by
  intro a ha
  simp only [seg, List.mem_map, List.mem_reverse, List.mem_range] at ha
  obtain ⟨k, hk, rfl⟩ := ha
  exact ⟨Nat.mul_lt_mul_of_lt_of_le hk (Nat.le_refl 64) (by decide), Nat.mul_mod_left k 64⟩

theorem recAddrs_node_lt (ns : List Node) : ∀ a ∈ recAddrs ns, a.node < ns.length := by
  induction ns with
  | nil => exact fun a ha => nomatch ha
  | cons n tail ih =>
    intro a ha
    rw [List.length_cons]
    rcases List.mem_append.1 ha with h | h
    · exact Nat.lt_succ_of_le (Nat.le_of_eq (seg_node _ _ a h))
    · exact Nat.lt_succ_of_lt (ih a h)

theorem lastScopeOf_eq (f : Factory) (h : NodesOk f.arena) : lastScopeOf f = (recAddrs f.arena.nodes).head? := by
  obtain ⟨head, tail, hn⟩ := List.exists_cons_of_ne_nil h.nonempty
  have hok := h.nodes head (by simp [hn])
  have hpos : recSize ≤ head.pos := hok.2.2
  have hm : head.pos / 64 = (head.pos / 64 - 1) + 1 := by omega
  have : (head.pos / 64 - 1) * 64 = head.pos - 64 := by omega
  simp only [lastScopeOf, hn, hpos, if_true, recAddrs]
  rw [hm, seg_succ, this]
  rfl

theorem lastScopeOf_isSome (f : Factory) (h : NodesOk f.arena) : (lastScopeOf f).isSome := by
  obtain ⟨head, tail, hn⟩ := List.exists_cons_of_ne_nil h.nonempty
  have hpos : recSize ≤ head.pos := (h.nodes head (by simp [hn])).2.2
  simp only [lastScopeOf, hn, hpos, if_true]; rfl

theorem alloc_geometry (a : Arena) (h : NodesOk a) :
    recAddrs (alloc g a recSize).1.nodes = (alloc g a recSize).2 :: recAddrs a.nodes ∧
    NodesOk (alloc g a recSize).1 := by
  obtain ⟨hd, tl, hnodes⟩ := List.exists_cons_of_ne_nil h.nonempty
  have hr : roundUp recSize a.align = 64 := by rw [h.align]; rfl
  have hn := h.nodes
  rw [hnodes, List.forall_mem_cons] at hn
  rw [hnodes]
  rcases alloc_cases g hnodes recSize with ⟨hfit, e⟩ | ⟨-, cap, hcap, e⟩
  · rw [e, hr]
    rw [hr] at hfit
    have h1 : (hd.pos + 64) / 64 = hd.pos / 64 + 1 := by omega
    have h2 : hd.pos / 64 * 64 = hd.pos := by omega
    refine ⟨?_, h.align, h.maxSize, by simp, List.forall_mem_cons.2 ⟨?_, hn.2⟩⟩
    · simp only [recAddrs, h1, seg_succ, h2, List.cons_append]
    · simp only []; omega
  · rw [e, hr]
    rw [hr] at hcap
    exact ⟨by simp [recAddrs, seg], h.align, h.maxSize, by simp,
      List.forall_mem_cons.2 ⟨⟨by simp, hcap, Nat.le_refl _⟩, List.forall_mem_cons.2 hn⟩⟩

/-- the `i`-th record address is the `k`-th record of some node `n`; older than it are the `k` below it in `n` and the
records of the older nodes -/
theorem recAddrs_split (ns : List Node) (i : Nat) (hi : i < (recAddrs ns).length) :
    ∃ newer n older k, ns = newer ++ n :: older ∧ k < n.pos / 64 ∧
      (recAddrs ns)[i] = ⟨older.length, k * 64⟩ ∧
      (recAddrs ns).drop (i + 1) = seg older.length k ++ recAddrs older := by
  induction ns generalizing i with
  | nil => simp [recAddrs] at hi
  | cons n tail ih =>
    simp only [recAddrs, List.length_append] at hi ⊢
    by_cases hseg : i < (seg tail.length (n.pos / 64)).length
    · have hi' : i < n.pos / 64 := by rwa [seg_length] at hseg
      refine ⟨[], n, tail, n.pos / 64 - 1 - i, rfl, by omega, ?_, ?_⟩
      · rw [List.getElem_append_left hseg, seg_getElem]
      · rw [List.drop_append_of_le_length hseg, seg_drop]
        congr 2; omega
    · obtain ⟨newer, m, older, k, e, hk, hget, hdrop⟩ := ih (i - (seg tail.length (n.pos / 64)).length) (by omega)
      refine ⟨n :: newer, m, older, k, by rw [e]; rfl, hk, ?_, ?_⟩
      · rw [List.getElem_append_right (by omega)]
        exact hget
      · rw [← hdrop, List.drop_append, List.drop_eq_nil_of_le (by omega), List.nil_append]
        congr 1; omega

theorem popEmpty_nonzero (a : Arena) (head : Node) (tail : List Node) (h : head.pos ≠ 0) :
    popEmpty { a with nodes := head :: tail } = { a with nodes := head :: tail } := by
  unfold popEmpty
  cases tail with
  | nil => rfl
  | cons t ts => simp only [h, if_false]

theorem popEmpty_zero (a : Arena) (head t : Node) (ts : List Node) (h : head.pos = 0) :
    popEmpty { a with nodes := head :: t :: ts } = { a with nodes := t :: ts } := by
  unfold popEmpty
  simp only [h, if_true]

/-- rewinding to the `i`-th newest record (not the last, which is the factory's own) leaves exactly the older records -/
theorem rewind_geometry (a : Arena) (h : NodesOk a) (i : Nat) (hi : i + 1 < (recAddrs a.nodes).length) :
    ∃ a', rewind a ((recAddrs a.nodes)[i]'(by omega)) = some a' ∧ NodesOk (popEmpty a') ∧
      recAddrs (popEmpty a').nodes = (recAddrs a.nodes).drop (i + 1) := by
  obtain ⟨newer, n, older, k, hsplit, hk, hget, hdrop⟩ := recAddrs_split a.nodes i (by omega)
  have hold : ∀ x ∈ older, x.pos % 64 = 0 ∧ x.pos ≤ x.cap ∧ 64 ≤ x.pos :=
    fun x hx => h.nodes x (by simp [hsplit, hx])
  have hn := h.nodes n (by simp [hsplit])
  have hc : k * 64 ≤ n.cap := by omega
  rw [hget, hdrop]
  refine ⟨_, rewind_eq hsplit rfl hc, ?_⟩
  rcases Nat.eq_zero_or_pos k with rfl | hk0
  · -- the node became empty: it is popped, unless it is the first node, whose record 0 is the factory
    cases older with
    | nil =>
      have := congrArg List.length hdrop
      simp [seg, recAddrs] at this
      omega
    | cons t ts =>
      rw [popEmpty_zero a _ t ts (Nat.zero_mul _)]
      exact ⟨⟨h.align, h.maxSize, by simp, hold⟩, by simp [seg]⟩
  · rw [popEmpty_nonzero a _ older (by simp only []; omega)]
    exact ⟨⟨h.align, h.maxSize, by simp, List.forall_mem_cons.2 ⟨⟨by simp, hc, by simp only []; omega⟩, hold⟩⟩,
      by simp [recAddrs]⟩

theorem recAddrs_nodup (ns : List Node) : (recAddrs ns).Nodup := by
  induction ns with
  | nil => simp [recAddrs]
  | cons n tail ih =>
    refine List.nodup_append.2 ⟨?_, ih, ?_⟩
    · unfold seg
      rw [List.nodup_iff_pairwise_ne, List.pairwise_map, List.pairwise_reverse]
      refine List.Pairwise.imp ?_ List.pairwise_lt_range
      intro a b hab e
      simp only [Addr.mk.injEq, true_and] at e
      omega
    · rintro a ha b hb rfl
      have h1 := seg_node _ _ a ha
      have h2 := recAddrs_node_lt tail a hb
      omega

end Gpc.Scope
