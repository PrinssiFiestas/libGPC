import Gpc.Proofs.Printf
import Gpc.Model.Print
/-! The type-directed print family stays inside its limit and (print) leaves a prefix of the complete text. -/
namespace Gpc.Printf
open Gpc.PF (PF Agrees Appends AppendsAs)

theorem writeRev_ok (ds : Bytes) : Appends (writeRev · ds) ds := fun p full h => by
  obtain ⟨d', e, l, a⟩ := PF.reverseCopy_ok h ds
  exact ⟨⟨d', _⟩, by simp [writeRev, e], l, a⟩

theorem writeItoa_ok (v : Int) :
    Appends (writeItoa · v) ((if v < 0 then [45] else []) ++ PF.digits 10 false v.natAbs) := by
  by_cases hv : v < 0
  · simp only [writeItoa, hv, if_true]; exact (PF.push_ok 45).bind (writeRev_ok _)
  · simp only [writeItoa, hv, if_false, List.nil_append, Option.bind_eq_bind, Option.bind_some]; exact writeRev_ok _

/-- the text the model writes for one value (floating point: through the plan of output steps) -/
def valModelText : Kind → Arg → Option Bytes
  | .dbl, .dbl bits => some (floatModelText gSpec bits)
  | .dbl, _ => none
  | k, v => valText k v

theorem fmtSigned_plain (len : LenMod) (raw : Nat) :
    fmtSigned { conv := 'd', len := len } raw =
      (if signedArg len raw < 0 then [45] else []) ++ natDigits 10 false (signedArg len raw).natAbs := by
  unfold fmtSigned padField signBytes precDigits
  simp

theorem printItoa_ok (len : LenMod) (raw : Nat) :
    Appends (writeItoa · (signedArg len raw)) (fmtSigned { conv := 'd', len := len } raw) := by
  rw [fmtSigned_plain, ← digits_eq 10 false _ (by omega) (lt_pow64 (by omega) (signedArg_abs_lt len raw))]
  exact writeItoa_ok _

theorem printVal_ok (t : Bytes) (k : Kind) (v : Arg) (ht : valModelText k v = some t) :
    AppendsAs some (printVal · k v) t := by
  have h32 (raw : Nat) : raw % 2 ^ 32 < 2 ^ 64 := Nat.lt_trans (Nat.mod_lt _ (by decide)) (by decide)
  have h64 (raw : Nat) : raw % 2 ^ 64 < 2 ^ 64 := Nat.mod_lt _ (by decide)
  cases k <;> cases v <;> simp only [valModelText, valText] at ht <;> (try (cases ht)) <;> simp only [printVal]
  · -- chr
    exact (PF.push_ok _).map some
  · -- u32
    exact (writeUInt_none_ok 10 false _ (by omega) (h32 _)).map some
  · -- u64
    exact (writeUInt_none_ok 10 false _ (by omega) (h64 _)).map some
  · -- bool
    exact (PF.concat_ok _).map some
  · -- i32
    exact (printItoa_ok .none _).map some
  · -- i64
    exact (printItoa_ok .ll _).map some
  · -- dbl: the default `%g` has no sign flags and no width; sign, then the digit plan
    rename_i bits
    refine ((PF.writeFloat_ok (floatPlan gSpec bits).1).text ?_).map some
    rw [planText_floatPlan]; unfold floatModelText padField; simp [gSpec]
  · -- cstr
    exact (PF.concat_ok _).map some
  · -- gstr
    exact (PF.concat_ok _).map some
  · -- ptr
    split
    · exact ((PF.concat_ok [48, 120]).bind (writeUInt_none_ok 16 false _ (by omega) (h64 _))).map some
    · exact (PF.concat_ok _).map some

theorem finish_eq (p : PF) : finish p = PF.terminate p := by
  have : PF.capLeft p ≠ 0 ↔ p.length < p.cap := by rw [PF.capLeft_eq]; omega
  simp only [finish, PF.terminate, this]

theorem writeFormat_ok (t fmt : Bytes) (args : List Arg)
    (hg : genFormat (convText floatModelText) (fmt.length + 1) fmt args = some t) :
    AppendsAs some (writeFormat · fmt args) t := fun p full h => by
  obtain ⟨w1, e1, c1, a1⟩ := vsnprintf_ok (fmt.length + 1) _ [] t fmt args (Agrees.nil (p.data.drop (min p.length p.cap))) hg
  rw [List.nil_append] at a1
  obtain ⟨w2, e2, hc, ha⟩ := h.run_window a1 c1
  exact ⟨_, by simp [writeFormat, e1, finish_eq, e2], hc, ha⟩

/-- the text of a print call as the model writes it -/
def printModelText (fuel : Nat) (objs : List Obj) : Option Bytes :=
  match fuel, objs with
  | 0, _ => none
  | _, [] => some []
  | fuel + 1, o :: rest =>
    if o.kind = 'F' then
      match o.val with
      | .str fmt =>
        match genFormat (convText floatModelText) ((cstrlen fmt).length + 1) (cstrlen fmt) (splitFmtArgs fmt rest).1,
              printModelText fuel (splitFmtArgs fmt rest).2 with
        | some t, some tail => some (t ++ tail)
        | _, _ => none
      | _ => none
    else
      match (kindOf o.kind).bind (fun k => valModelText k o.val), printModelText fuel rest with
      | some t, some tail => some (t ++ tail)
      | _, _ => none

/-- the last clause is for `printlnEnd`, which turns `out[length - 1]` into the newline: behind a separator the
length is 0 only if nothing fits at all -/
theorem sep_ok (sep : Bool) (p : PF) (full : Bytes) (h : Agrees p full) :
    ∃ p' s, (if sep ∧ p.length < p.cap then PF.push p 32 else some p) = some p' ∧ p'.cap = p.cap ∧
      Agrees p' (full ++ s) ∧ (sep = false → s = []) ∧ (sep = true → p'.length = 0 → p'.cap = 0) := by
  by_cases hs : sep = true ∧ p.length < p.cap
  · obtain ⟨p', e, c, a⟩ := PF.push_ok 32 p full h
    refine ⟨p', [32], by rw [if_pos hs]; exact e, c, a, fun hf => by simp [hf] at hs, fun _ h0 => ?_⟩
    rw [a.1] at h0; simp at h0
  · refine ⟨p, [], by rw [if_neg hs], rfl, by rwa [List.append_nil], fun _ => rfl, fun ht h0 => ?_⟩
    have : ¬ p.length < p.cap := fun hl => hs ⟨ht, hl⟩
    omega

/-- the print loop with or without println's separators, which are written only while there is room; with them the
length is 0 only on a destination of no bytes (the `out[-1]` guard of `printlnEnd_ok`) -/
theorem printObjs_run (fuel : Nat) : ∀ (sep : Bool) (p : PF) (full t : Bytes) (objs : List Obj), Agrees p full →
    printModelText fuel objs = some t →
    ∃ p' t', printObjs fuel p objs sep = some (some p') ∧ p'.cap = p.cap ∧ Agrees p' (full ++ t') ∧
      (sep = false → t' = t) ∧ (sep = true → objs ≠ [] → p'.length = 0 → p'.cap = 0) := by
  induction fuel with
  | zero => intro sep p full t objs _ ht; simp [printModelText] at ht
  | succ f ih =>
    intro sep p full t objs h ht
    cases objs with
    | nil =>
      simp only [printModelText] at ht; cases ht
      exact ⟨p, [], by simp [printObjs], rfl, by rwa [List.append_nil], fun _ => rfl, fun _ hne => absurd rfl hne⟩
    | cons o rest =>
      simp only [printModelText] at ht
      simp only [printObjs]
      -- behind one object: the separator, then the rest
      have key : ∀ (p1 : PF) (t1 tail : Bytes) (rest' : List Obj), p1.cap = p.cap → Agrees p1 (full ++ t1) →
          printModelText f rest' = some tail → t = t1 ++ tail →
          ∃ p' t', (match (if sep ∧ p1.length < p1.cap then PF.push p1 32 else some p1) with
              | none => none
              | some q => printObjs f q rest' sep) = some (some p') ∧ p'.cap = p.cap ∧ Agrees p' (full ++ t') ∧
            (sep = false → t' = t) ∧ (sep = true → p'.length = 0 → p'.cap = 0) := by
        intro p1 t1 tail rest' hc1 a1 hr htt
        obtain ⟨q, s, eq, cq, aq, sq, zq⟩ := sep_ok sep p1 _ a1
        obtain ⟨p', t', e', c', a', s', _⟩ := ih sep q _ tail rest' aq hr
        refine ⟨p', t1 ++ s ++ t', by rw [eq]; exact e', by rw [c', cq, hc1], by simpa only [List.append_assoc] using a',
          fun hf => by rw [sq hf, s' hf, htt, List.append_nil], fun hs h0 => ?_⟩
        have hq : q.length = 0 := by
          have := a'.1; have := aq.1; simp only [List.length_append] at *; omega
        rw [c']; exact zq hs hq
      by_cases hF : o.kind = 'F'
      · simp only [hF, if_true] at ht ⊢
        cases hv : o.val with
        | int raw => simp [hv] at ht
        | dbl bits => simp [hv] at ht
        | gstr g => simp [hv] at ht
        | str fmt =>
          simp only [hv] at ht ⊢
          split at ht
          · rename_i t1 tail hg hr
            cases ht
            obtain ⟨p1, e1, c1, a1⟩ := writeFormat_ok t1 (cstrlen fmt) _ hg p full h
            obtain ⟨p', t', e', r'⟩ := key p1 t1 tail _ c1 a1 hr rfl
            exact ⟨p', t', by simp only [e1]; exact e', r'.1, r'.2.1, r'.2.2.1, fun hs _ => r'.2.2.2 hs⟩
          · cases ht
      · simp only [hF, if_false] at ht ⊢
        split at ht
        · rename_i t1 tail hk hr
          cases ht
          cases hk' : kindOf o.kind with
          | none => simp [hk'] at hk
          | some k =>
            rw [hk'] at hk
            obtain ⟨p1, e1, c1, a1⟩ := printVal_ok t1 k o.val hk p full h
            obtain ⟨p', t', e', r'⟩ := key p1 t1 tail _ c1 a1 hr rfl
            exact ⟨p', t', by simp only [printObj, hk', e1]; exact e', r'.1, r'.2.1, r'.2.2.1, fun hs _ => r'.2.2.2 hs⟩
        · cases ht

theorem printlnEnd_ok (p : PF) (hz : p.length = 0 → p.cap = 0) :
    ∃ p', printlnEnd p = some p' ∧ p'.cap = p.cap ∧ p'.length = p.length := by
  unfold printlnEnd
  by_cases h0 : p.length = 0
  · have := hz h0
    refine ⟨p, ?_, rfl, rfl⟩
    simp [h0, this]
  · simp only [h0, if_false]
    by_cases hc : p.cap > p.length - 1
    · rw [if_pos hc]
      obtain ⟨d', e, l, _⟩ := PF.wr_some p.data (p.length - 1) [10]
        (Or.inr (by simp only [List.length_singleton, PF.cap] at *; omega))
      exact ⟨{ p with data := d' }, by simp [e], by simp [PF.cap, l], rfl⟩
    · rw [if_neg hc]; exact ⟨p, rfl, rfl, rfl⟩

end Gpc.Printf
