import Gpc.Proofs.Printf
import Gpc.Proofs.List
import Gpc.Proofs.Nat
/-! Digit strings and their values; the digit blocks of the floating point plan spell the text they were cut
from, for every well-formed body `ddd`, `ddd.ddd`, `d.ddde±dd`, `de±dd`. -/
namespace Gpc.Printf
open Gpc.PF (lastDigits dDigits digits Emit planText planText_cons planText_append)

def IsDigits (ds : Bytes) : Prop := ∀ b ∈ ds, 48 ≤ b.toNat ∧ b.toNat ≤ 57

instance : DecidablePred IsDigits := fun ds => by unfold IsDigits; infer_instance

theorem IsDigits.take {ds : Bytes} (h : IsDigits ds) (n : Nat) : IsDigits (ds.take n) :=
  fun b hb => h b (List.mem_of_mem_take hb)
theorem IsDigits.drop {ds : Bytes} (h : IsDigits ds) (n : Nat) : IsDigits (ds.drop n) :=
  fun b hb => h b (List.mem_of_mem_drop hb)

theorem IsDigits.append {a b : Bytes} (ha : IsDigits a) (hb : IsDigits b) : IsDigits (a ++ b) :=
  fun c hc => (List.mem_append.mp hc).elim (ha c) (hb c)

theorem IsDigits.of_snoc {ds : Bytes} {b : UInt8} (h : IsDigits (ds ++ [b])) :
    IsDigits ds ∧ 48 ≤ b.toNat ∧ b.toNat ≤ 57 :=
  ⟨fun c hc => h c (List.mem_append_left _ hc), h b (List.mem_append_right _ (List.mem_singleton_self b))⟩

theorem IsDigits.zeros (k : Nat) : IsDigits (List.replicate k 48) := fun c hc => by
  rw [(List.mem_replicate.mp hc).2]; decide

theorem valueOf_append_singleton (ds : Bytes) (b : UInt8) :
    valueOf (ds ++ [b]) = valueOf ds * 10 + (b.toNat - 48) := by
  simp [valueOf, List.foldl_append]

theorem valueOf_snoc_divMod (ds : Bytes) {b : UInt8} (hb : 48 ≤ b.toNat ∧ b.toNat ≤ 57) :
    valueOf (ds ++ [b]) / 10 = valueOf ds ∧ valueOf (ds ++ [b]) % 10 = b.toNat - 48 :=
  valueOf_append_singleton ds b ▸ ⟨digit_div (by omega), Nat.mul_add_mod_of_lt (by omega)⟩

theorem valueOf_zeros_append (k : Nat) (ds : Bytes) : valueOf (List.replicate k 48 ++ ds) = valueOf ds := by
  induction k with
  | zero => rfl
  | succ k ih => rw [List.replicate_succ, List.cons_append, ← ih]; simp [valueOf]

theorem valueOf_lt (ds : Bytes) (h : IsDigits ds) : valueOf ds < 10 ^ ds.length := by
  induction ds using snoc_induction with
  | nil => exact Nat.one_pos
  | snoc ds b ih =>
    obtain ⟨hd, hb⟩ := h.of_snoc
    have := ih hd
    rw [valueOf_append_singleton, List.length_append, List.length_singleton, Nat.pow_succ]
    omega

theorem valueOf_pos (ds : Bytes) (h : IsDigits ds) (hne : ds ≠ []) (hl : ds.head? ≠ some 48) : 1 ≤ valueOf ds := by
  induction ds using snoc_induction with
  | nil => exact absurd rfl hne
  | snoc ds b ih =>
    rw [valueOf_append_singleton]
    cases ds with
    | nil =>
      have : b.toNat ≠ 48 := fun e => hl (congrArg some (UInt8.toNat_inj.mp e))
      have := h b (List.mem_singleton_self b)
      simp only [valueOf, List.foldl_nil]; omega
    | cons c t => have := ih h.of_snoc.1 (List.cons_ne_nil c t) hl; omega

theorem ofNat_digit (b : UInt8) (h : 48 ≤ b.toNat ∧ b.toNat ≤ 57) :
    UInt8.ofNat (48 + (b.toNat - 48)) = b := by
  rw [show 48 + (b.toNat - 48) = b.toNat by omega]; exact UInt8.ofNat_toNat

theorem digitChar_digit (b : UInt8) (h : 48 ≤ b.toNat ∧ b.toNat ≤ 57) : digitChar false (b.toNat - 48) = b := by
  unfold digitChar
  rw [if_pos (by omega)]
  exact ofNat_digit b h

theorem digitChar_toNat (d : Nat) (h : d < 10) : (digitChar false d).toNat = 48 + d := by
  unfold digitChar
  rw [if_pos h, UInt8.toNat_ofNat']; omega

theorem lastDigits_succ (n x : Nat) :
    lastDigits (n + 1) x = lastDigits n (x / 10) ++ [UInt8.ofNat (48 + x % 10)] := by
  unfold lastDigits
  rw [List.range_succ_eq_map, List.reverse_cons, List.map_append, ← List.map_reverse, List.map_map]
  congr 1
  · apply List.map_congr_left
    intro i _
    simp only [Function.comp]
    rw [Nat.pow_succ, Nat.mul_comm, Nat.div_div_eq_div_mul]
  · simp

/-- a block of `count` digits is reproduced by `pf_append_c_digits` / `pf_append_nine_digits` -/
theorem lastDigits_valueOf (ds : Bytes) (h : IsDigits ds) : lastDigits ds.length (valueOf ds) = ds := by
  induction ds using snoc_induction with
  | nil => rfl
  | snoc ds b ih =>
    obtain ⟨hd, hb⟩ := h.of_snoc
    rw [List.length_append, List.length_singleton, lastDigits_succ, (valueOf_snoc_divMod ds hb).1,
      (valueOf_snoc_divMod ds hb).2, ih hd, ofNat_digit b hb]

theorem natDigits_isDigits (n : Nat) : IsDigits (natDigits 10 false n) := by
  fun_induction natDigits 10 false n with
  | case1 x h =>
    intro b hb
    rw [List.mem_singleton.mp hb, digitChar_toNat x (by omega)]; omega
  | case2 x h ih =>
    refine ih.append fun b hb => ?_
    rw [List.mem_singleton.mp hb, digitChar_toNat _ (Nat.mod_lt _ (by omega))]; omega

/-- for any reading `v` of the digit characters that inverts `digitChar` below the base; `valueOf` (base 10) and
`ofDigits` are such readings -/
theorem natDigits_foldl (base : Nat) (upper : Bool) (hb : 2 ≤ base) (v : UInt8 → Nat)
    (hv : ∀ d, d < base → v (digitChar upper d) = d) (x : Nat) :
    (natDigits base upper x).foldl (fun a b => a * base + v b) 0 = x := by
  fun_induction natDigits base upper x with
  | case1 x h => rw [List.foldl_cons, List.foldl_nil, Nat.zero_mul, Nat.zero_add, hv x (by omega)]
  | case2 x h ih =>
    rw [List.foldl_append, ih, List.foldl_cons, List.foldl_nil, hv _ (Nat.mod_lt x (by omega)), Nat.mul_comm]
    exact Nat.div_add_mod x base

theorem valueOf_natDigits : ∀ n, valueOf (natDigits 10 false n) = n :=
  natDigits_foldl 10 false (by omega) _ fun d hd => by rw [digitChar_toNat d hd, Nat.add_sub_cancel_left]

/-- a digit string as the integer part is written: no leading zero unless it is the single digit -/
def IsIntPart (ds : Bytes) : Prop := IsDigits ds ∧ ds ≠ [] ∧ (ds.length = 1 ∨ ds.head? ≠ some 48)

instance : DecidablePred IsIntPart := fun ds => by unfold IsIntPart; infer_instance

theorem natDigits_isIntPart (n : Nat) : IsIntPart (natDigits 10 false n) := by
  refine ⟨natDigits_isDigits n, natDigits_ne_nil 10 false n, ?_⟩
  by_cases h : n = 0
  · left; subst h; rw [natDigits_zero]; rfl
  · right; exact natDigits_head 10 false (by omega) (by omega) n (by omega)

theorem IsIntPart.take {ds : Bytes} (h : IsIntPart ds) {k : Nat} (hk : 0 < k) : IsIntPart (ds.take k) := by
  obtain ⟨hd, hne, hl⟩ := h
  obtain ⟨a, t, rfl⟩ := List.exists_cons_of_ne_nil hne
  obtain ⟨k, rfl⟩ : ∃ j, k = j + 1 := ⟨k - 1, by omega⟩
  refine ⟨hd.take _, List.cons_ne_nil _ _, hl.imp (fun h1 => ?_) id⟩
  simp only [List.length_cons, List.take_succ_cons, List.length_take] at h1 ⊢; omega

theorem natDigits_valueOf (ds : Bytes) (h : IsIntPart ds) : natDigits 10 false (valueOf ds) = ds := by
  induction ds using snoc_induction with
  | nil => exact absurd rfl h.2.1
  | snoc ds b ih =>
    obtain ⟨hd, hb⟩ := h.1.of_snoc
    cases ds with
    | nil =>
      rw [valueOf_append_singleton, natDigits_of_lt false (by simp only [valueOf, List.foldl_nil]; omega)]
      simp only [valueOf, List.foldl_nil, Nat.zero_mul, Nat.zero_add, List.nil_append, digitChar_digit b hb]
    | cons c t =>
      have hi : IsIntPart (c :: t) := by
        have := h.take (k := (c :: t).length) (Nat.succ_pos _)
        rwa [List.take_left] at this
      have hpos := valueOf_pos (c :: t) hd (List.cons_ne_nil c t)
        (h.2.2.resolve_left (by simp only [List.length_append, List.length_cons]; omega))
      rw [natDigits_of_le false (by omega) (by rw [valueOf_append_singleton]; omega), (valueOf_snoc_divMod _ hb).1,
        (valueOf_snoc_divMod _ hb).2, ih hi, digitChar_digit b hb]

/-- `pf_utoa` of a block's value writes the block; 64 is the fuel of `PF.digits` -/
theorem digits_valueOf (ds : Bytes) (h : IsDigits ds) (hne : ds ≠ []) (hlen : ds.length ≤ 64)
    (hl : ds.length = 1 ∨ ds.head? ≠ some 48) : digits 10 false (valueOf ds) = ds := by
  have hlt := valueOf_lt ds h
  have hpow : 10 ^ ds.length ≤ 10 ^ 64 := Nat.pow_le_pow_right (by omega) hlen
  rw [digits_eq 10 false _ (by omega) (by omega)]
  exact natDigits_valueOf ds ⟨h, hne, hl⟩

theorem planText_nine (ds : Bytes) (h : IsDigits ds) (hl : 9 ≤ ds.length) (es : List Emit)
    (he : planText es = ds.drop 9) : planText (Emit.nine (valueOf (ds.take 9)) :: es) = ds := by
  have := lastDigits_valueOf (ds.take 9) (h.take 9)
  rw [List.length_take, Nat.min_eq_left hl] at this
  simp only [planText_cons, Emit.text, this, he, List.take_append_drop]

theorem planText_fracBlocks (fuel : Nat) : ∀ (ds : Bytes), IsDigits ds → ds.length ≤ fuel →
    planText (fracBlocks ds fuel) = ds := by
  intro ds h hl
  fun_induction fracBlocks ds fuel with
  | case1 ds => rw [List.eq_nil_of_length_eq_zero (Nat.le_zero.mp hl)]; rfl
  | case2 ds fuel h0 => rw [List.eq_nil_of_length_eq_zero h0]; rfl
  | case3 ds fuel h0 h9 ih =>
    exact planText_nine ds h (by omega) _ (ih (h.drop 9) (by simp only [List.length_drop]; omega))
  | case4 ds fuel h0 h9 =>
    rw [planText_cons]
    exact (List.append_nil _).trans (lastDigits_valueOf ds h)

theorem planText_intGo (fuel : Nat) (ds : Bytes) (h : IsDigits ds) (h9 : ds.length % 9 = 0) (hl : ds.length ≤ fuel) :
    planText (intBlocks.go ds fuel) = ds := by
  fun_induction intBlocks.go ds fuel with
  | case1 ds => rw [List.eq_nil_of_length_eq_zero (Nat.le_zero.mp hl)]; rfl
  | case2 ds fuel h0 => rw [List.eq_nil_of_length_eq_zero h0]; rfl
  | case3 ds fuel h0 ih =>
    exact planText_nine ds h (by omega) _ (ih (h.drop 9) (by simp only [List.length_drop]; omega)
      (by simp only [List.length_drop]; omega))

theorem planText_intBlocks (ds : Bytes) (h : IsIntPart ds) : planText (intBlocks ds) = ds := by
  have hpos : 0 < ds.length := List.length_pos_iff.mpr h.2.1
  unfold intBlocks
  simp only
  generalize hr : (if ds.length % 9 = 0 then 9 else ds.length % 9) = r
  have hr1 : 1 ≤ r ∧ r ≤ 9 ∧ r ≤ ds.length ∧ (ds.length - r) % 9 = 0 := by
    subst hr; split <;> omega
  -- the first block is cut short so that it carries the text's lack of a leading zero
  obtain ⟨hd, hne, hl⟩ := h.take (k := r) (by omega)
  rw [planText_cons, planText_intGo ds.length (ds.drop r) (h.1.drop r) (by simp only [List.length_drop]; omega)
    (by simp only [List.length_drop]; omega)]
  simp only [Emit.text]
  rw [digits_valueOf (ds.take r) hd hne (by simp only [List.length_take]; omega) hl, List.take_append_drop]

theorem planText_fracPlan (ds : Bytes) (h : IsDigits ds) : planText (fracPlan ds) = ds := by
  unfold fracPlan
  simp only
  generalize hz : ds.takeWhile (· = 48) = zs
  obtain ⟨t, ht⟩ : zs <+: ds := hz ▸ List.takeWhile_prefix _
  have hd : ds.drop zs.length = t := by rw [← ht, List.drop_left]
  have hb : planText (fracBlocks t ds.length) = t :=
    planText_fracBlocks ds.length t (hd ▸ h.drop _) (by rw [← hd, List.length_drop]; omega)
  rw [hd]
  by_cases hpos : zs.length > 0
  · rw [if_pos hpos, List.singleton_append, planText_cons, hb]
    simp only [Emit.text]
    rw [← hz, ← takeWhile_eq_replicate, hz, ht]
  · rw [if_neg hpos, List.nil_append, hb, ← ht, List.eq_nil_of_length_eq_zero (by omega : zs.length = 0)]
    rfl

/-- what follows the integer digits in a number's text: nothing, or the point and the fraction digits -/
inductive PointPart : Bytes → Prop
  | none : PointPart []
  | point {fr : Bytes} (h : IsDigits fr) : PointPart (46 :: fr)

theorem PointPart.tail {dot : Bytes} (h : PointPart dot) : IsDigits dot.tail := by
  cases h with
  | none => exact fun _ => nofun
  | point h => exact h

theorem PointPart.of_dropWhile {mant : Bytes} (h : IsDigits (mant.dropWhile (· ≠ 46)).tail) :
    PointPart (mant.dropWhile (· ≠ 46)) := by
  cases hr : mant.dropWhile (· ≠ 46) with
  | nil => exact .none
  | cons c fr =>
    obtain rfl : c = 46 := by simpa using mem_head?_dropWhile (hr ▸ rfl : c ∈ (mant.dropWhile (· ≠ 46)).head?)
    rw [hr] at h
    exact .point h

/-- well-formed text of a finite value, in terms of the parts `bodyPlan` cuts it into: digits after the
point; without an exponent an integer part without leading zeros, with one a single leading digit -/
def BodyWF (body : Bytes) : Prop :=
  let mant := body.takeWhile (fun b => b ≠ 101 ∧ b ≠ 69)
  let expo := body.dropWhile (fun b => b ≠ 101 ∧ b ≠ 69)
  let ip := mant.takeWhile (· ≠ 46)
  let rest := mant.dropWhile (· ≠ 46)
  IsDigits rest.tail ∧
  (if expo.length = 0 then IsIntPart ip else IsDigits ip ∧ ip.length = 1)

instance : DecidablePred BodyWF := fun body => by unfold BodyWF; infer_instance

theorem planText_expPlan (expo : Bytes) : planText (match expo with
      | [] => []
      | e :: sg :: ds => [Emit.push e, Emit.push sg, Emit.concat ds]
      | [e] => [Emit.push e]) = expo := by
  match expo with
  | [] => rfl
  | [e] => rfl
  | e :: sg :: ds => simp [planText, Emit.text]

theorem dDigits_first (d : UInt8) (fr8 : Bytes) (h : IsDigits (d :: fr8)) :
    dDigits (d :: fr8).length (valueOf (d :: fr8)) = d :: 46 :: fr8 := by
  unfold dDigits
  rw [lastDigits_valueOf _ h]

theorem planText_bodyPlan (body : Bytes) (h : BodyWF body) : planText (bodyPlan body) = body := by
  unfold BodyWF at h
  unfold bodyPlan
  simp only at h ⊢
  generalize hm : body.takeWhile (fun b => b ≠ 101 ∧ b ≠ 69) = mant at h ⊢
  generalize he : body.dropWhile (fun b => b ≠ 101 ∧ b ≠ 69) = expo at h ⊢
  have hbody : mant ++ expo = body := by subst hm he; exact List.takeWhile_append_dropWhile
  generalize hi : mant.takeWhile (· ≠ 46) = ip at h ⊢
  generalize hr : mant.dropWhile (· ≠ 46) = rest at h ⊢
  have hmant : ip ++ rest = mant := by subst hi hr; exact List.takeWhile_append_dropWhile
  obtain ⟨hfr, hip⟩ := h
  have hdot : PointPart rest := hr ▸ PointPart.of_dropWhile (hr ▸ hfr)
  clear hfr
  -- the exponent part spells itself (`planText_expPlan`); what remains is the mantissa `ip ++ rest`
  rw [planText_append, ← hbody, ← hmant]
  refine (congrArg (_ ++ ·) (planText_expPlan expo)).trans (congrArg (· ++ expo) ?_)
  by_cases hx : expo.length = 0
  · rw [if_pos hx] at hip ⊢
    rw [planText_append, planText_intBlocks ip hip]
    congr 1
    cases hdot with
    | none => rfl
    | point hf =>
      rw [planText_cons, planText_fracPlan _ hf]
      rfl
  · rw [if_neg hx] at hip ⊢
    obtain ⟨hipd, hip1⟩ := hip
    obtain ⟨d, rfl⟩ := List.length_eq_one_iff.mp hip1
    cases hdot with
    | none => simp [planText, Emit.text]
    | @point fr hfr =>
      simp only
      by_cases hf0 : fr.length = 0
      · rw [if_pos hf0, List.eq_nil_of_length_eq_zero hf0]
        simp [planText, Emit.text]
      · -- the `d.ddd` block takes the leading digit and up to eight of the fraction
        rw [if_neg hf0, planText_cons,
          planText_fracBlocks fr.length (fr.drop 8) (hfr.drop 8) (by simp only [List.length_drop]; omega)]
        simp only [Emit.text, List.singleton_append]
        rw [dDigits_first d (fr.take 8) (hipd.append (hfr.take 8)), List.cons_append, List.cons_append,
          List.take_append_drop]

end Gpc.Printf
