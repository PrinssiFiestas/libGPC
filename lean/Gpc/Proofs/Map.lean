import Gpc.Model.Map
import Gpc.Proofs.List
/-! The walks of `get` / `put` / `remove` through the tree of slot arrays (C05), by what they do to the hit lists of all
keys.  Throughout, `p` is the slot `path ++ [ks % w width0 d]` of the key `ks` in the array `path`. -/
namespace Gpc.Map

/-- elements stored under `ks` along the walk from (`path`, `ks`, `d`), first found first -/
def hitList (width0 : Nat) (cells : List Nat → Cell) : (fuel : Nat) → (path : List Nat) → (ks d : Nat) → List Nat
  | 0, _, _, _ => []
  | fuel + 1, path, ks, d =>
    let p := path ++ [ks % w width0 d]
    match cells p with
    | .empty => []
    | .leaf k e => if k = ks then [e] else []
    | .node k (some e) =>
      (if k = ks then [e] else []) ++ hitList width0 cells fuel p (ks / w width0 d) (d + 1)
    | .node _ none => hitList width0 cells fuel p (ks / w width0 d) (d + 1)

def DepthOk (cells : List Nat → Cell) (D : Nat) : Prop := ∀ p, cells p ≠ .empty → p.length ≤ D

/-- below an empty slot or a leaf there is nothing (child arrays are created zeroed, only under
slots that become nodes) -/
def TreeOk (cells : List Nat → Cell) : Prop :=
  ∀ p q, p ≠ [] → q ≠ [] → (cells p = .empty ∨ ∃ k e, cells p = .leaf k e) → cells (p ++ q) = .empty

variable {width0 : Nat} {cells cells' : List Nat → Cell} {path p : List Nat} {k ks ks' d D F : Nat}
  {eo : Option Nat} {old new : List Nat}

theorem setCell_same (cells : List Nat → Cell) (p : List Nat) (c : Cell) : setCell cells p c p = c := by
  simp [setCell]

theorem setCell_other (cells : List Nat → Cell) (p q : List Nat) (c : Cell) (h : q ≠ p) :
    setCell cells p c q = cells q := by
  simp [setCell, h]

theorem append_singleton_ne_self (p : List Nat) (i : Nat) (q : List Nat) : p ++ [i] ++ q ≠ p :=
  fun e => not_snoc_prefix_self p i ⟨q, e⟩

theorem div_ne_of_mod_eq (a b m : Nat) (hne : a ≠ b) (hm : a % m = b % m) : a / m ≠ b / m := by
  intro hd
  have h1 := Nat.div_add_mod a m
  have h2 := Nat.div_add_mod b m
  rw [hd, hm] at h1
  omega

/-- what a slot holding `c` yields for the key `ks` compared at its level, `below` being what the slot's child
array yields -/
def Cell.hits : Cell → Nat → List Nat → List Nat
  | .empty, _, _ => []
  | .leaf k e, ks, _ => if k = ks then [e] else []
  | .node k (some e), ks, below => (if k = ks then [e] else []) ++ below
  | .node _ none, _, below => below

/-- a slot without children that holds `o` under `ks`: a leaf, or the empty slot -/
def Cell.ofLeaf (ks : Nat) : Option Nat → Cell
  | none => .empty
  | some e => .leaf ks e

theorem Cell.hits_ofLeaf (ks : Nat) (o : Option Nat) (below : List Nat) : (Cell.ofLeaf ks o).hits ks below = o.toList := by
  cases o with
  | none => rfl
  | some e => exact if_pos rfl

theorem Cell.hits_node (ks : Nat) (eo : Option Nat) (below : List Nat) :
    (Cell.node ks eo).hits ks below = eo.toList ++ below := by
  cases eo with
  | none => rfl
  | some e => simp only [Cell.hits, if_true, Option.toList]

theorem Cell.hits_pass (h : eo = none ∨ k ≠ ks) (below : List Nat) : (Cell.node k eo).hits ks below = below := by
  rcases h with rfl | h
  · rfl
  · cases eo with
    | none => rfl
    | some e => simp only [Cell.hits, if_neg h, List.nil_append]

theorem Cell.hits_ofLeaf_ne (h : ks' ≠ ks) (o : Option Nat) (below : List Nat) : (Cell.ofLeaf ks o).hits ks' below = [] := by
  cases o with
  | none => rfl
  | some e => exact if_neg (Ne.symm h)

theorem hit_or_pass (k : Nat) (eo : Option Nat) (ks : Nat) : (∃ x, eo = some x ∧ k = ks) ∨ (eo = none ∨ k ≠ ks) := by
  cases eo with
  | none => exact Or.inr (Or.inl rfl)
  | some x => exact (Decidable.em (k = ks)).imp (fun h => ⟨x, rfl, h⟩) Or.inr

theorem hitList_succ (width0 : Nat) (cells : List Nat → Cell) (F : Nat) (path : List Nat) (ks d : Nat) :
    hitList width0 cells (F + 1) path ks d =
      (cells (path ++ [ks % w width0 d])).hits ks
        (hitList width0 cells F (path ++ [ks % w width0 d]) (ks / w width0 d) (d + 1)) := by
  simp only [hitList]
  split <;> simp only [Cell.hits, *]

/-- locality: a walk only reads cells at and below its slot -/
theorem hitList_congr {c1 c2 : List Nat → Cell} (F : Nat)
    (h : ∀ q, path ++ [ks % w width0 d] <+: q → c1 q = c2 q) :
    hitList width0 c1 F path ks d = hitList width0 c2 F path ks d := by
  induction F generalizing path ks d with
  | zero => rfl
  | succ f ih =>
    rw [hitList_succ, hitList_succ, h _ List.prefix_rfl, ih fun q hq => h q ((List.prefix_append _ _).trans hq)]

theorem hitList_setCell_self (width0 : Nat) (cells : List Nat → Cell) (p : List Nat) (c : Cell) (F ks d : Nat) :
    hitList width0 (setCell cells p c) F p ks d = hitList width0 cells F p ks d :=
  hitList_congr F fun _ hq => setCell_other _ _ _ _ fun e => not_snoc_prefix_self p _ (e ▸ hq)

theorem hitList_deep (width0 : Nat) (hD : DepthOk cells D) (F ks : Nat) (hp : path.length = d) (hd : D ≤ d) :
    hitList width0 cells F path ks d = [] := by
  cases F with
  | zero => rfl
  | succ F =>
    have : cells (path ++ [ks % w width0 d]) = .empty :=
      Classical.byContradiction fun hne => by have := hD _ hne; simp at this; omega
    rw [hitList_succ, this]; rfl

theorem hitList_fuel (width0 : Nat) (cells : List Nat → Cell) (D : Nat) (hD : DepthOk cells D)
    (f1 f2 : Nat) (path : List Nat) (ks d : Nat) (hp : path.length = d) (h1 : D + 1 ≤ f1 + d) (h2 : D + 1 ≤ f2 + d) :
    hitList width0 cells f1 path ks d = hitList width0 cells f2 path ks d := by
  induction f1 generalizing f2 path ks d with
  | zero => exact (hitList_deep width0 hD f2 ks hp (by omega)).symm
  | succ f ih =>
    cases f2 with
    | zero => exact hitList_deep width0 hD _ ks hp (by omega)
    | succ g => rw [hitList_succ, hitList_succ, ih g _ _ (d + 1) (by simp; omega) (by omega) (by omega)]

theorem hitList_below_leaf (width0 : Nat) (cells : List Nat → Cell) (p : List Nat)
    (h : ∀ q, q ≠ [] → cells (p ++ q) = .empty) (F ks d : Nat) : hitList width0 cells F p ks d = [] := by
  cases F with
  | zero => rfl
  | succ F => rw [hitList_succ, h [_] (by simp)]; rfl

theorem TreeOk.hitList_below (width0 : Nat) (ht : TreeOk cells) (hp : p ≠ [])
    (hc : cells p = .empty ∨ ∃ k e, cells p = .leaf k e) (G ks d : Nat) : hitList width0 cells G p ks d = [] :=
  hitList_below_leaf width0 cells p (fun q hq => ht p q hp hq hc) G ks d

theorem getLoop_pass (hp : p = path ++ [ks % w width0 d]) (hc : cells p = .node k eo) (h : eo = none ∨ k ≠ ks) :
    getLoop width0 cells (F + 1) path ks d = getLoop width0 cells F p (ks / w width0 d) (d + 1) := by
  subst hp
  cases eo with
  | none => simp only [getLoop, hc]
  | some x => simp only [getLoop, hc, if_neg (h.resolve_left nofun)]

theorem removeLoop_pass (hp : p = path ++ [ks % w width0 d]) (hc : cells p = .node k eo) (h : eo = none ∨ k ≠ ks)
    (log : List Nat) :
    removeLoop width0 (F + 1) cells path ks d log = removeLoop width0 F cells p (ks / w width0 d) (d + 1) log := by
  subst hp
  cases eo with
  | none => simp only [removeLoop, hc]
  | some x => simp only [removeLoop, hc, if_neg (h.resolve_left nofun)]

theorem putLoop_pass (hp : p = path ++ [ks % w width0 d]) (hc : cells p = .node k eo) (h : eo = none ∨ k ≠ ks)
    (e : Nat) (log : List Nat) :
    putLoop width0 (F + 1) cells path ks d e log = putLoop width0 F cells p (ks / w width0 d) (d + 1) e log := by
  subst hp
  cases eo with
  | none => simp only [putLoop, hc]
  | some x => simp only [putLoop, hc, if_neg (h.resolve_left nofun)]

theorem getLoop_eq (width0 : Nat) (cells : List Nat → Cell) (D : Nat) (hD : DepthOk cells D)
    (fuel : Nat) (path : List Nat) (ks d : Nat) (hp : path.length = d) (hf : D + 1 ≤ fuel + d) (hpos : 0 < fuel) :
    getLoop width0 cells fuel path ks d = some (hitList width0 cells fuel path ks d).head? := by
  induction fuel generalizing path ks d with
  | zero => omega
  | succ f ih =>
    rw [hitList_succ]
    cases hc : cells (path ++ [ks % w width0 d]) with
    | empty => simp only [getLoop, hc]; rfl
    | leaf k e =>
      simp only [getLoop, hc, Cell.hits]
      split <;> rfl
    | node k eo =>
      rcases hit_or_pass k eo ks with ⟨x, rfl, rfl⟩ | hpass
      · simp only [getLoop, hc, if_true, Cell.hits_node]; rfl
      · have hlen := hD _ (by rw [hc]; exact Cell.noConfusion)
        rw [List.length_append, List.length_singleton] at hlen
        rw [getLoop_pass rfl hc hpass, Cell.hits_pass hpass]
        exact ih _ _ (d + 1) (by simp [hp]) (by omega) (by omega)

/-- What one `put` or `remove` under key `ks` does, seen from the array `path` at depth `d` (`ks` being the key as shifted
there): only cells at and below the slot of `ks` are written; a walk for `ks` with fuel `F` found `old` and now finds
`new`; a walk for any other key finds what it found before (it leaves for another slot, or shares the slot and then still
differs from `ks` after the shift). -/
structure Changes (width0 : Nat) (cells cells' : List Nat → Cell) (path : List Nat) (ks d F : Nat)
    (old new : List Nat) : Prop where
  frame : ∀ q, ¬ path ++ [ks % w width0 d] <+: q → cells' q = cells q
  old_eq : hitList width0 cells F path ks d = old
  new_eq : hitList width0 cells' F path ks d = new
  other : ∀ ks', ks' ≠ ks → ∀ G, hitList width0 cells' G path ks' d = hitList width0 cells G path ks' d


theorem hitList_off {i : Nat} (hl : ∀ q, ¬ path ++ [i] <+: q → cells' q = cells q) {ks' : Nat}
    (hne : ks' % w width0 d ≠ i) (G : Nat) :
    hitList width0 cells' G path ks' d = hitList width0 cells G path ks' d :=
  hitList_congr G fun q hq => hl q fun hq' => hne (snoc_prefix_inj hq hq')

theorem Changes.rfl (h : hitList width0 cells F path ks d = old) : Changes width0 cells cells path ks d F old old :=
  ⟨fun _ _ => Eq.refl _, h, h, fun _ _ _ => Eq.refl _⟩

theorem Changes.trans {cells'' : List Nat → Cell} {mid : List Nat} (h1 : Changes width0 cells cells' path ks d F old mid)
    (h2 : Changes width0 cells' cells'' path ks d F mid new) : Changes width0 cells cells'' path ks d F old new :=
  ⟨fun q hq => (h2.frame q hq).trans (h1.frame q hq), h1.old_eq, h2.new_eq,
   fun ks' hk G => (h2.other ks' hk G).trans (h1.other ks' hk G)⟩

/-- the slot `p` of `ks` gets the content `c`, which looks to every other key like the old content -/
theorem Changes.write (hp : p = path ++ [ks % w width0 d]) (c : Cell)
    (ho : ∀ ks', ks' ≠ ks → ∀ G, c.hits ks' (hitList width0 cells G p (ks' / w width0 d) (d + 1)) =
      (cells p).hits ks' (hitList width0 cells G p (ks' / w width0 d) (d + 1)))
    (hold : (cells p).hits ks (hitList width0 cells F p (ks / w width0 d) (d + 1)) = old)
    (hnew : c.hits ks (hitList width0 cells F p (ks / w width0 d) (d + 1)) = new) :
    Changes width0 cells (setCell cells p c) path ks d (F + 1) old new := by
  subst hp hold hnew
  have hfr : ∀ q, ¬ path ++ [ks % w width0 d] <+: q → setCell cells (path ++ [ks % w width0 d]) c q = cells q :=
    fun q hq => setCell_other _ _ _ _ fun e => hq (e ▸ List.prefix_rfl)
  refine ⟨hfr, hitList_succ .., ?_, ?_⟩
  · rw [hitList_succ, setCell_same, hitList_setCell_self]
  · intro ks' hk G
    by_cases hi : ks' % w width0 d = ks % w width0 d
    · cases G with
      | zero => rfl
      | succ G => rw [hitList_succ, hitList_succ, hi, setCell_same, hitList_setCell_self, ho ks' hk]
    · exact hitList_off hfr hi G

/-- the walk passes the slot `p` of `ks` and the change happens below it -/
theorem Changes.descend (hp : p = path ++ [ks % w width0 d]) (hpass : ∀ below, (cells p).hits ks below = below)
    (h : Changes width0 cells cells' p (ks / w width0 d) (d + 1) F old new) :
    Changes width0 cells cells' path ks d (F + 1) old new := by
  subst hp
  have hfr : ∀ q, ¬ path ++ [ks % w width0 d] <+: q → cells' q = cells q :=
    fun q hq => h.frame q fun hq' => hq ((List.prefix_append _ _).trans hq')
  have hp := h.frame _ (not_snoc_prefix_self _ _)
  refine ⟨hfr, ?_, ?_, ?_⟩
  · rw [hitList_succ, hpass, h.old_eq]
  · rw [hitList_succ, hp, hpass, h.new_eq]
  · intro ks' hk G
    by_cases hi : ks' % w width0 d = ks % w width0 d
    · cases G with
      | zero => rfl
      | succ G =>
        -- same slot, so the keys still differ after the shift
        rw [hitList_succ, hitList_succ, hi, hp, h.other _ (div_ne_of_mod_eq _ _ _ hk hi) G]
    · exact hitList_off hfr hi G

theorem Changes.write_leaf (hp : p = path ++ [ks % w width0 d]) {o : Option Nat} (hc : cells p = .ofLeaf ks o)
    (o' : Option Nat) :
    Changes width0 cells (setCell cells p (.ofLeaf ks o')) path ks d (F + 1) o.toList o'.toList :=
   .write hp _ (fun ks' hk G => by rw [hc, Cell.hits_ofLeaf_ne hk, Cell.hits_ofLeaf_ne hk])
    (by rw [hc]; exact Cell.hits_ofLeaf ..) (Cell.hits_ofLeaf ..)

theorem Changes.write_node (hp : p = path ++ [ks % w width0 d]) (hc : cells p = .node ks eo) (eo' : Option Nat) :
    Changes width0 cells (setCell cells p (.node ks eo')) path ks d (F + 1)
      (eo.toList ++ hitList width0 cells F p (ks / w width0 d) (d + 1))
      (eo'.toList ++ hitList width0 cells F p (ks / w width0 d) (d + 1)) := by
  exact .write hp _ (fun ks' hk G => by rw [hc, Cell.hits_pass (Or.inr hk.symm), Cell.hits_pass (Or.inr hk.symm)])
    (by rw [hc]; exact Cell.hits_node ..) (Cell.hits_node ..)

theorem TreeOk.overwrite (h : TreeOk cells) (hp : cells p ≠ .empty) (c : Cell)
    (hc : (∃ k eo, c = .node k eo) ∨ ∃ k e, cells p = .leaf k e) : TreeOk (setCell cells p c) := by
  intro p0 q hp0 hq hcc
  by_cases e0 : p0 = p
  · subst e0
    rw [setCell_same] at hcc
    rw [setCell_other _ _ _ _ (by simpa using hq)]
    rcases hc with ⟨k, eo, rfl⟩ | hc
    · simp at hcc
    · exact h p0 q hp0 hq (Or.inr hc)
  · rw [setCell_other _ _ _ _ e0] at hcc
    have := h p0 q hp0 hq hcc
    -- `p0 ++ q` is not the slot: below an empty slot or a leaf nothing is in use
    rw [setCell_other _ _ _ _ fun e1 => hp (by rw [← e1]; exact this)]
    exact this

theorem TreeOk.fill (h : TreeOk cells)
    (hn : path = [] ∨ ∃ k eo, cells path = .node k eo) (i k e : Nat) (hc : cells (path ++ [i]) = .empty) :
    TreeOk (setCell cells (path ++ [i]) (.leaf k e)) := by
  intro p0 q hp0 hq hcc
  by_cases e0 : p0 = path ++ [i]
  · subst e0
    rw [setCell_other _ _ _ _ (by simpa using hq)]
    exact h _ q hp0 hq (Or.inl hc)
  · rw [setCell_other _ _ _ _ e0] at hcc
    by_cases e1 : p0 ++ q = path ++ [i]
    · -- `p0` is the slot the array hangs from, or above it: a node, as otherwise nothing below it were in use
      exfalso
      obtain ⟨q', rfl⟩ := (List.prefix_concat_iff.1 ⟨q, e1⟩).resolve_left e0
      rcases hn with hn | ⟨k', eo, hn⟩
      · exact hp0 (List.append_eq_nil_iff.1 hn).1
      · by_cases hq' : q' = []
        · subst hq'
          rw [List.append_nil] at hn
          rcases hcc with h1 | ⟨_, _, h1⟩ <;> simp [hn] at h1
        · simp [h p0 q' hp0 hq' hcc] at hn
    · rw [setCell_other _ _ _ _ e1]
      exact h p0 q hp0 hq hcc

theorem DepthOk.setCell {D' : Nat} (h : DepthOk cells D) (hD : D ≤ D') (hp : p.length ≤ D') (c : Cell) : DepthOk (setCell cells p c) D' := by
  intro q hq
  by_cases e : q = p
  · rw [e]; exact hp
  · rw [setCell_other _ _ _ _ e] at hq
    exact Nat.le_trans (h q hq) hD

/-- `remove` with enough fuel drops the first element found under its key and hands it to the destructor -/
theorem removeLoop_spec (fuel : Nat) (log : List Nat) (D : Nat) (ht : TreeOk cells) (hD : DepthOk cells D)
    (hp : path.length = d) (hf : D + 1 ≤ fuel + d) (hpos : 0 < fuel) :
    ∃ b cells' log' old, removeLoop width0 fuel cells path ks d log = some (b, cells', log') ∧
      TreeOk cells' ∧ DepthOk cells' D ∧ Changes width0 cells cells' path ks d fuel old old.tail ∧
      log' = log ++ old.head?.toList ∧ b = !old.isEmpty := by
  induction fuel generalizing cells path ks d with
  | zero => omega
  | succ F ih =>
    have hset (hne : cells (path ++ [ks % w width0 d]) ≠ .empty) (c : Cell) :
        DepthOk (setCell cells (path ++ [ks % w width0 d]) c) D := hD.setCell (Nat.le_refl _) (hD _ hne) c
    cases hc : cells (path ++ [ks % w width0 d]) with
    | empty =>
      exact ⟨false, cells, log, [], by simp only [removeLoop, hc], ht, hD, .rfl (by rw [hitList_succ, hc]; rfl), (List.append_nil _).symm, rfl⟩
    | leaf k x =>
      have hne : cells (path ++ [ks % w width0 d]) ≠ .empty := by rw [hc]; exact Cell.noConfusion
      by_cases hk : k = ks
      · subst k
        exact ⟨true, _, _, [x], by simp only [removeLoop, hc, if_true]; rfl,
          ht.overwrite hne _ (Or.inr ⟨ks, x, hc⟩), hset hne _,
          .write_leaf rfl (o := some x) hc none, rfl, rfl⟩
      · exact ⟨false, cells, log, [], by simp only [removeLoop, hc, if_neg hk], ht, hD,
          .rfl (by rw [hitList_succ, hc]; exact if_neg hk), (List.append_nil _).symm, rfl⟩
    | node k eo =>
      have hne : cells (path ++ [ks % w width0 d]) ≠ .empty := by rw [hc]; exact Cell.noConfusion
      rcases hit_or_pass k eo ks with ⟨x, rfl, rfl⟩ | hpass
      · exact ⟨true, _, _, _, by simp only [removeLoop, hc, if_true]; rfl, ht.overwrite hne _ (Or.inl ⟨_, _, rfl⟩), hset hne _,
          .write_node rfl hc none, rfl, rfl⟩
      · have hlen := hD _ hne
        rw [List.length_append, List.length_singleton] at hlen
        obtain ⟨b, cells', log', old, e1, t1, d1, c1, l1⟩ := ih (ks := ks / w width0 d) ht hD
          (by simp [hp] : (path ++ [ks % w width0 d]).length = d + 1) (by omega) (by omega)
        exact ⟨b, cells', log', old, (removeLoop_pass rfl hc hpass log).trans e1, t1, d1,
          .descend rfl (hc ▸ Cell.hits_pass hpass) c1, l1⟩

/-- `put` with enough fuel replaces the first element found under its key (handing it to the destructor) or, if there is
none, makes its element the only one found; the tree gets one level deeper at most -/
theorem putLoop_spec (fuel e : Nat) (log : List Nat) (D : Nat) (ht : TreeOk cells) (hD : DepthOk cells D)
    (hn : path = [] ∨ ∃ k eo, cells path = .node k eo) (hp : path.length = d) (hd : d ≤ D) (hf : D + 2 ≤ fuel + d) :
    ∃ cells' log' old, putLoop width0 fuel cells path ks d e log = some (cells', log') ∧
      TreeOk cells' ∧ DepthOk cells' (D + 1) ∧ Changes width0 cells cells' path ks d fuel old (e :: old.tail) ∧
      log' = log ++ old.head?.toList := by
  induction fuel generalizing cells path ks d with
  | zero => omega
  | succ F ih =>
    have hplen : (path ++ [ks % w width0 d]).length = d + 1 := by simp [hp]
    have hset (c : Cell) : DepthOk (setCell cells (path ++ [ks % w width0 d]) c) (D + 1) :=
      hD.setCell (Nat.le_succ _) (by omega) c
    cases hc : cells (path ++ [ks % w width0 d]) with
    | empty =>
      exact ⟨_, _, [], by simp only [putLoop, hc], ht.fill hn _ _ _ hc, hset _,
        .write_leaf rfl (o := none) hc (some e), (List.append_nil _).symm⟩
    | leaf k x =>
      have hne : cells (path ++ [ks % w width0 d]) ≠ .empty := by rw [hc]; exact Cell.noConfusion
      have hlen : d + 1 ≤ D := by have := hD _ hne; omega
      by_cases hk : k = ks
      · subst k
        exact ⟨_, _, [x], by simp only [putLoop, hc, if_true]; rfl,
          ht.overwrite hne _ (Or.inr ⟨ks, x, hc⟩), hset _,
          .write_leaf rfl (o := some x) hc (some e), rfl⟩
      · -- collision: the leaf becomes a node, which changes nothing for any key since its child array is empty,
        -- and the walk goes on below it
        have hbelow := ht.hitList_below width0 (p := path ++ [ks % w width0 d]) (by simp) (Or.inr ⟨k, x, hc⟩)
        obtain ⟨cells', log', old, e1, t1, d1, c1, l1⟩ := ih (ks := ks / w width0 d)
          (ht.overwrite hne (.node k (some x)) (Or.inl ⟨_, _, rfl⟩)) (hD.setCell (Nat.le_refl _) (by omega) _)
          (Or.inr ⟨k, some x, setCell_same _ _ _⟩) hplen hlen (by omega)
        obtain rfl : old = [] := by rw [← c1.old_eq, hitList_setCell_self, hbelow]
        have h1 : Changes width0 cells (setCell cells (path ++ [ks % w width0 d]) (.node k (some x))) path ks d (F + 1) [] [] :=
          .write rfl _ (fun ks' _ G => by rw [hc, hbelow]; exact List.append_nil _)
            (by rw [hc]; exact if_neg hk) (by rw [hbelow]; exact Cell.hits_pass (Or.inr hk) [])
        exact ⟨cells', log', [], by simp only [putLoop, hc, if_neg hk]; exact e1, t1, d1,
          h1.trans (.descend rfl (fun below => by rw [setCell_same]; exact Cell.hits_pass (Or.inr hk) below) c1), l1⟩
    | node k eo =>
      have hne : cells (path ++ [ks % w width0 d]) ≠ .empty := by rw [hc]; exact Cell.noConfusion
      rcases hit_or_pass k eo ks with ⟨x, rfl, rfl⟩ | hpass
      · exact ⟨_, _, _, by simp only [putLoop, hc, if_true]; rfl, ht.overwrite hne _ (Or.inl ⟨_, _, rfl⟩), hset _,
          .write_node rfl hc (some e), rfl⟩
      · have hlen : d + 1 ≤ D := by have := hD _ hne; omega
        obtain ⟨cells', log', old, e1, t1, d1, c1, l1⟩ := ih (ks := ks / w width0 d) ht hD (Or.inr ⟨k, eo, hc⟩)
          hplen hlen (by omega)
        exact ⟨cells', log', old, (putLoop_pass rfl hc hpass e log).trans e1, t1, d1,
          .descend rfl (hc ▸ Cell.hits_pass hpass) c1, l1⟩

end Gpc.Map
