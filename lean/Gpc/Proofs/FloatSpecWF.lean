import Gpc.Proofs.FloatPlan
import Gpc.Proofs.List
/-! The specification's texts of finite values are well-formed numbers (`BodyWF`), so the plan theorem
applies to every `%f %F %e %E %g %G` conversion without a side condition. -/
namespace Gpc.Printf

theorem point_split {ip dot : Bytes} (hip : IsDigits ip) (hdot : PointPart dot) :
    (ip ++ dot).takeWhile (· ≠ 46) = ip ∧ (ip ++ dot).dropWhile (· ≠ 46) = dot :=
  span_append (fun b hb => by simpa using digit_ne b (hip b hb) 46 (by decide)) fun c hc => by
    cases hdot with
    | none => cases hc
    | point _ => rw [← Option.some.inj hc]; rfl

/-- the shapes `ddd`, `ddd.ddd`, `de±dd`, `d.ddde±dd` at once -/
theorem bodyWF_append {ip dot ex : Bytes} (hip : IsDigits ip) (hdot : PointPart dot)
    (hex : ∀ c ∈ ex.head?, c = 101 ∨ c = 69) (h : if ex.length = 0 then IsIntPart ip else ip.length = 1) :
    BodyWF (ip ++ dot ++ ex) := by
  have hmant : ∀ b ∈ ip ++ dot, decide (b ≠ 101 ∧ b ≠ 69) = true := by
    have hd : ∀ b : UInt8, 48 ≤ b.toNat ∧ b.toNat ≤ 57 → decide (b ≠ 101 ∧ b ≠ 69) = true := fun b hb => by
      simpa using ⟨digit_ne b hb 101 (by decide), digit_ne b hb 69 (by decide)⟩
    intro b hb
    rcases List.mem_append.mp hb with hb | hb
    · exact hd b (hip b hb)
    · cases hdot with
      | none => cases hb
      | point hfr =>
        rcases List.mem_cons.mp hb with rfl | hb
        · decide
        · exact hd b (hfr b hb)
  obtain ⟨e1, e2⟩ := span_append hmant (l₂ := ex) (fun c hc => by rcases hex c hc with rfl | rfl <;> decide)
  obtain ⟨e3, e4⟩ := point_split hip hdot
  unfold BodyWF
  simp only [e1, e2, e3, e4]
  refine ⟨hdot.tail, ?_⟩
  split at h
  · rwa [if_pos ‹_›]
  · exact (if_neg ‹_›).mpr ⟨hip, h⟩

theorem bodyWF_fixed {ip dot : Bytes} (hi : IsIntPart ip) (hdot : PointPart dot) : BodyWF (ip ++ dot) :=
  List.append_nil (ip ++ dot) ▸ bodyWF_append hi.1 hdot (fun _ => nofun) hi

/-- fixed notation is an integer part and a point part (`prec` digits when `prec > 0`) whose digits together spell
the rounded scaled value -/
theorem fixedText_parts (m : Nat) (e : Int) (prec : Nat) (alt : Bool) :
    ∃ ip dot, IsIntPart ip ∧ PointPart dot ∧ (0 < prec → dot.length = prec + 1) ∧
      valueOf (ip ++ dot.tail) = scaled m e prec ∧ fixedText m e prec alt = ip ++ dot := by
  unfold fixedText
  simp only
  generalize scaled m e ↑prec = n
  have hnd := natDigits_isIntPart n
  by_cases hp : prec > 0
  · generalize hds : List.replicate (prec + 1 - (natDigits 10 false n).length) 48 ++ natDigits 10 false n = ds
    have hdig : IsDigits ds := hds ▸ (IsDigits.zeros _).append hnd.1
    have hlen : ds.length = (prec + 1 - (natDigits 10 false n).length) + (natDigits 10 false n).length := by
      rw [← hds, List.length_append, List.length_replicate]
    refine ⟨ds.take (ds.length - prec), 46 :: ds.drop (ds.length - prec), ?_, .point (hdig.drop _), by simp; omega,
      by rw [List.tail_cons, List.take_append_drop, ← hds, valueOf_zeros_append, valueOf_natDigits], by simp [hp]⟩
    -- either the digits were padded to `prec + 1` and one of them stands before the point, or there was no padding
    by_cases hk : ds.length - prec = 1
    · exact ⟨hdig.take _, List.ne_nil_of_length_pos (by simp; omega), .inl (by simp; omega)⟩
    · have hz : prec + 1 - (natDigits 10 false n).length = 0 := by omega
      rw [hz, List.replicate_zero, List.nil_append] at hds
      exact hds ▸ hnd.take (by omega)
  · rw [if_neg hp]
    have hv : valueOf (natDigits 10 false n ++ []) = n := by rw [List.append_nil, valueOf_natDigits]
    cases alt
    · exact ⟨_, [], hnd, .none, (absurd · hp), hv, by simp⟩
    · exact ⟨_, [46], hnd, .point fun _ => nofun, (absurd · hp), hv, rfl⟩

theorem fixedText_wf (m : Nat) (e : Int) (prec : Nat) (alt : Bool) : BodyWF (fixedText m e prec alt) := by
  obtain ⟨ip, dot, hi, hd, -, -, h⟩ := fixedText_parts m e prec alt
  exact h ▸ bodyWF_fixed hi hd

theorem expText_wf (ds : Bytes) (x : Int) (alt upper : Bool) (hd : IsDigits ds) (hne : ds ≠ []) :
    BodyWF (expText ds x alt upper) := by
  obtain ⟨d, r, rfl⟩ := List.exists_cons_of_ne_nil hne
  have key (dot : Bytes) (hdot : PointPart dot) (tail : Bytes) :
      BodyWF ([d] ++ dot ++ (if upper then 69 else 101) :: tail) :=
    bodyWF_append (ip := [d]) (hd.take 1) hdot
      (fun c hc => by
        rw [← Option.some.inj hc]
        cases upper
        · exact .inl rfl
        · exact .inr rfl) rfl
  unfold expText
  match r with
  | [] =>
    cases alt
    · simpa using key [] .none _
    · simpa using key [46] (.point fun _ => nofun) _
  | c :: r => simpa using key (46 :: c :: r) (.point (hd.drop 1)) _

theorem expParts_digits (m : Nat) (e : Int) (prec : Nat) :
    IsDigits (expParts m e prec).1 ∧ (expParts m e prec).1 ≠ [] := by
  unfold expParts
  simp only
  split
  · exact ⟨IsDigits.zeros _, by simp⟩
  · split <;> exact ⟨natDigits_isDigits _, natDigits_ne_nil _ _ _⟩

theorem stripZeros_subset (s : Bytes) : ∀ b ∈ stripZeros s, b ∈ s := fun _ hb =>
  List.mem_reverse.mp ((List.dropWhile_sublist _).subset (List.mem_reverse.mp hb))

theorem stripZeros_isDigits {s : Bytes} (h : IsDigits s) : IsDigits (stripZeros s) := fun b hb =>
  h b (stripZeros_subset s b hb)

theorem stripZeros_point (ip fr : Bytes) : stripZeros (ip ++ 46 :: fr) = ip ++ 46 :: stripZeros fr := by
  unfold stripZeros
  rw [List.reverse_append, List.reverse_cons, List.append_assoc, List.dropWhile_append]
  split
  · rename_i h
    rw [List.isEmpty_iff.mp h]; simp
  · simp

theorem stripZeros_getLast (s : Bytes) : (stripZeros s).getLast? ≠ some 48 := by
  unfold stripZeros
  rw [List.getLast?_reverse]
  exact fun h => by simpa using mem_head?_dropWhile h

theorem gText_wf (m : Nat) (e : Int) (prec : Option Nat) (alt upper : Bool) : BodyWF (gText m e prec alt upper) := by
  unfold gText
  extract_lets P
  clear_value P
  obtain ⟨hd, hne⟩ := expParts_digits m e (P - 1)
  generalize expParts m e (P - 1) = r at hd hne ⊢
  obtain ⟨ds, x⟩ := r
  simp only at hd hne ⊢
  split
  · generalize ((P : Int) - 1 - x).toNat = fp
    split
    · rename_i hc
      obtain ⟨ip, dot, hi, hdot, -, -, hs⟩ := fixedText_parts m e fp alt
      rw [hs] at hc ⊢
      cases hdot with
      | none =>
        have : (46 : UInt8) ∈ ip := by simpa using hc.2
        exact absurd rfl (digit_ne 46 (hi.1 46 this) 46 (by decide))
      | @point fr hf =>
        rw [stripZeros_point]
        have hfr : IsDigits (stripZeros fr) := stripZeros_isDigits hf
        -- when all fraction digits are stripped the bare point goes too
        cases hz : stripZeros fr with
        | nil => simpa using bodyWF_fixed hi .none
        | cons z t =>
          have hlast : (ip ++ 46 :: z :: t).getLast? ≠ some 46 := by
            rw [List.getLast?_append, List.getLast?_cons_cons, List.getLast?_eq_some_getLast (List.cons_ne_nil z t),
              Option.some_or]
            exact fun h => digit_ne _ ((hz ▸ hfr) _ (List.getLast_mem _)) 46 (by decide) (Option.some.inj h)
          rw [if_neg hlast]
          exact bodyWF_fixed hi (.point (hz ▸ hfr))
    · exact fixedText_wf m e fp alt
  · obtain ⟨d, r, rfl⟩ := List.exists_cons_of_ne_nil hne
    apply expText_wf
    · cases alt
      · exact (hd.take 1).append (stripZeros_isDigits (hd.drop 1))
      · exact hd
    · cases alt
      · exact List.cons_ne_nil _ _
      · exact hne

theorem floatParts_wf (s : Spec) (bits : Nat) (hfin : (floatParts s bits).2.2 = false) :
    BodyWF (floatParts s bits).2.1 := by
  unfold floatParts at hfin ⊢
  simp only at hfin ⊢
  cases hsp : (decode bits).special with
  | some nan => rw [hsp] at hfin; simp at hfin
  | none =>
    simp only
    split
    · exact fixedText_wf _ _ _ _
    · split
      · have hd := expParts_digits (decode bits).m (decode bits).e (s.prec.getD 6)
        exact expText_wf _ _ _ _ hd.1 hd.2
      · exact gText_wf _ _ _ _ _

theorem natDigits_length_one_of_lt (n : Nat) (h : n < 10) : (natDigits 10 false n).length = 1 := by
  rw [natDigits_of_lt false h]; rfl

end Gpc.Printf
