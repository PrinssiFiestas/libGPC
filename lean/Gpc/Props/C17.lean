import Gpc.Model.Generic
import Gpc.Proofs.List
/-!
# C17 — type-generic macros mean exactly what the explicit function API means

In `Gpc.Generic`, `Arg.norm cfg` is the length derivation of a configuration, `Arg.explicitN` the lengths spelled out
by the caller, `apply` the function API; `evalMacro cfg` derives and calls, `evalExplicit` spells out and calls.
-/
namespace Gpc.Props.C17
open Gpc.Generic

/-- both configurations derive exactly the explicit length from every accepted spelling of a string input -/
theorem derive_eq_explicit (cfg : Cfg) (a : SArg) (h : a.wf cfg = true) : a.derive cfg = some a.explicit := by
  cases a with
  | lit b =>
    cases cfg with
    | c11 => rfl
    | c99 =>
      -- the one case where the two differ in the code: `sizeof` of the literal against `strlen`; equal as the
      -- literal holds no NUL
      have hb : ∀ x ∈ b, (x != 0) = true := fun x hx => by
        simpa using fun e : x = 0 => by simp [SArg.wf, ← e, hx] at h
      have : cstrLen b = b := by simpa [cstrLen] using List.takeWhile_append_of_pos (l₂ := []) hb
      simp only [SArg.derive, SArg.explicit, this]
  | cptr b =>
    cases cfg with
    | c11 => rfl
    | c99 => cases h
  | gstr b => cases cfg <;> rfl
  | buf b n =>
    have hn : n ≤ b.length := by simpa [SArg.wf] using h
    cases cfg <;> simp only [SArg.derive, SArg.explicit, hn, if_true]

theorem aderive_eq_explicit (a : AArg) (h : a.wf = true) : a.derive = some a.explicit := by
  cases a with
  | ptr vs n => simp only [AArg.derive, AArg.explicit, show n ≤ vs.length by simpa [AArg.wf] using h, if_true]
  | _ => rfl

theorem norm_eq_explicit (cfg : Cfg) (a : Arg) (h : a.wf cfg = true) : a.norm cfg = some a.explicitN := by
  cases a with
  | str a => simp only [Arg.norm, Arg.explicitN, derive_eq_explicit cfg a h, Option.map_some]
  | arr es a => simp only [Arg.norm, Arg.explicitN, aderive_eq_explicit a h, Option.map_some]
  | _ => rfl

/-- C17 (meaning): in either configuration, every macro form applied to accepted arguments is the explicit function
call with the lengths spelled out. -/
theorem macro_eq_function (cfg : Cfg) (mac : String) (args : List Arg) (h : ∀ a ∈ args, a.wf cfg = true) :
    evalMacro cfg mac args = evalExplicit mac args := by
  simp [evalMacro, evalExplicit, mapM_eq_map args fun a ha => norm_eq_explicit cfg a (h a ha)]

/-- the two configurations agree on whatever both accept -/
theorem configurations_agree (mac : String) (args : List Arg)
    (h11 : ∀ a ∈ args, a.wf .c11 = true) (h99 : ∀ a ∈ args, a.wf .c99 = true) :
    evalMacro .c11 mac args = evalMacro .c99 mac args := by
  rw [macro_eq_function .c11 mac args h11, macro_eq_function .c99 mac args h99]

/-- the hypotheses are met by an ordinary call: `gp_append(&dest, "lit")`, `gp_insert(alc, 1, gpstring, buf, 2)` -/
example : ∀ a ∈ [Arg.dstr 4 [97], Arg.str (.lit [98, 99])], a.wf .c99 = true := by decide
example : evalMacro .c99 "append" [Arg.dstr 4 [97], Arg.str (.lit [98, 99])] = some (.s [97, 98, 99]) := by decide
example : evalMacro .c11 "insert" [Arg.alc true, Arg.num 1, Arg.str (.gstr [97, 98]), Arg.str (.buf [88, 89, 90] 2)]
    = some (.s [97, 88, 89, 98]) := by decide

/-- why literals with an embedded NUL are outside the contract: the configurations derive different lengths -/
theorem nul_literal_diverges : (SArg.lit [97, 0, 98]).derive .c11 ≠ (SArg.lit [97, 0, 98]).derive .c99 := by decide

/-- and why C99 needs literals: a `char*` variable has no derivation there -/
theorem cptr_c99_rejected (b : Bytes) : (SArg.cptr b).derive .c99 = none := rfl

/-- C17 (destination or allocator, C99): with `sizeof(GPString) = sizeof(T*) < sizeof(GPAllocator)` and every
allocator type at least as large as `GPAllocator`, the size test tells destinations from allocators. -/
theorem classify99_correct (ptr alc : Nat) (h : ptr < alc) :
    classify99 ptr alc = .dest ∧ classify99 alc alc = .alloc ∧ ∀ a, alc ≤ a → classify99 a alc = .alloc := by
  refine ⟨by simp [classify99, h], by simp [classify99], ?_⟩
  intro a ha; simp [classify99]; omega

/-- the sizes of this platform (checked against the compiled code on every run) -/
example : classify99 8 16 = .dest ∧ classify99 16 16 = .alloc := by decide
/-- the test has to be strict: under `≤` a `GPAllocator*` counts as a destination -/
example : (if (16 : Nat) ≤ 16 then First.dest else First.alloc) = .dest := by decide

/-- C17 (allocator forms): an allocator-destination form returns what the destination form leaves in a destination
that held the first input. -/
theorem alloc_form_is_dest_form_on_copy (a b n r set loc : Bytes) (p st : Nat) (f : List Char) (va vb : List Int) (g : String) :
    apply "append" [.alc, .str a, .str b] = apply "append" [.dstr a, .str b]
    ∧ apply "insert" [.alc, .num p, .str a, .str b] = apply "insert" [.dstr a, .num p, .str b]
    ∧ apply "replace" [.alc, .str a, .str n, .str r, .num st] = apply "replace" [.dstr a, .str n, .str r, .num st]
    ∧ apply "replace_all" [.alc, .str a, .str n, .str r] = apply "replace_all" [.dstr a, .str n, .str r]
    ∧ apply "trim" [.alc, .str a, .cs set, .flags f] = apply "trim" [.dstr a, .cs set, .flags f]
    ∧ apply "to_upper" [.alc, .str a, .cs loc] = apply "to_upper" [.dstr a, .cs loc]
    ∧ apply "to_lower" [.alc, .str a] = apply "to_lower" [.dstr a]
    ∧ apply "capitalize" [.alc, .str a, .cs loc] = apply "capitalize" [.dstr a, .cs loc]
    ∧ apply "to_valid" [.alc, .str a, .cs r] = apply "to_valid" [.dstr a, .cs r]
    ∧ apply "append" [.alc, .arr va, .arr vb] = apply "append" [.darr va, .arr vb]
    ∧ apply "insert" [.alc, .num p, .arr va, .arr vb] = apply "insert" [.darr va, .num p, .arr vb]
    ∧ apply "map" [.alc, .arr va, .fn g] = apply "map" [.darr va, .fn g]
    ∧ apply "filter" [.alc, .arr va, .fn g] = apply "filter" [.darr va, .fn g] := by
  refine ⟨rfl, rfl, rfl, rfl, rfl, rfl, rfl, rfl, rfl, rfl, rfl, rfl, rfl⟩

/-- the insert forms put `s` at `pos` and keep both parts of `d` -/
theorem insertL_spec {α} (d s : List α) (p : Nat) (h : p ≤ d.length) :
    (insertL d p s).length = d.length + s.length ∧ (insertL d p s).take p = d.take p
    ∧ ((insertL d p s).drop p).take s.length = s ∧ (insertL d p s).drop (p + s.length) = d.drop p := by
  have hl : (d.take p).length = p := by simp [List.length_take]; omega
  refine ⟨by simp [insertL, List.length_append, List.length_take, List.length_drop]; omega, ?_, ?_, ?_⟩
  · simp [insertL, hl]
  · simp [insertL, hl]
  · simp [insertL, List.drop_append, hl]

end Gpc.Props.C17
