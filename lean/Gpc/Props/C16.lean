import Gpc.Model.FileIO
import Gpc.Proofs.List
/-!
# C16 — file reads partition the file; I/O failure is reported

`Gpc.FileIO` models gp_file_read_line / gp_file_read_until / gp_file_read_strip over the list of bytes that remain
in the file, and `gp_str_file` (whole-file read, write, append) over an operating system that may fail.
-/
namespace Gpc.FileIO

def EndsWith (acc delim : Bytes) : Prop := delim.length ≤ acc.length ∧ acc.drop (acc.length - delim.length) = delim

instance (acc delim : Bytes) : Decidable (EndsWith acc delim) := by unfold EndsWith; infer_instance

/-- the delimiter does not occur earlier: no proper non-empty prefix of `seg` ends with it -/
def NoEarlier (seg delim : Bytes) : Prop := ∀ k, 0 < k → k < seg.length → ¬ EndsWith (seg.take k) delim

theorem endsWith_iff_suffix {acc delim : Bytes} : EndsWith acc delim ↔ delim <:+ acc :=
  ⟨fun h => List.suffix_iff_eq_drop.2 h.2.symm, fun h => ⟨h.length_le, (List.suffix_iff_eq_drop.1 h).symm⟩⟩

theorem untilLoop_cons (delim acc : Bytes) (c : UInt8) (rest : Bytes) :
    untilLoop delim acc (c :: rest) =
      if EndsWith acc delim then (acc, c :: rest) else untilLoop delim (acc ++ [c]) rest := rfl

theorem NoEarlier.snoc {acc delim : Bytes} (h : NoEarlier acc delim) (hn : ¬ EndsWith acc delim) (c : UInt8) :
    NoEarlier (acc ++ [c]) delim := by
  intro k hk0 hk
  simp only [List.length_append, List.length_singleton] at hk
  by_cases hk2 : k < acc.length
  · rw [List.take_append_of_le_length (by omega)]; exact h k hk0 hk2
  · rw [show k = acc.length by omega, List.take_left' rfl]; exact hn

theorem untilLoop_spec (delim : Bytes) (rest acc : Bytes) (hne : acc ≠ []) (hno : NoEarlier acc delim) :
    (untilLoop delim acc rest).1 ++ (untilLoop delim acc rest).2 = acc ++ rest ∧
    (untilLoop delim acc rest).1 ≠ [] ∧
    (EndsWith (untilLoop delim acc rest).1 delim ∨ (untilLoop delim acc rest).2 = []) ∧
    NoEarlier (untilLoop delim acc rest).1 delim := by
  induction rest generalizing acc with
  | nil => simp [untilLoop, hne, hno]
  | cons c rest ih =>
    rw [untilLoop_cons]
    split
    · exact ⟨rfl, hne, Or.inl ‹_›, hno⟩
    · obtain ⟨h1, h2⟩ := ih (acc ++ [c]) (by simp) (hno.snoc ‹_› c)
      exact ⟨by rw [h1, List.append_assoc, List.singleton_append], h2⟩

/-- C16, read until a delimiter: while data is left, the segment read and the rest make up the file, the segment
is not empty, and it ends with the delimiter, at the first place where the bytes read end with it, or reaches the
end of the file. -/
theorem readUntil_partition (delim file : Bytes) (hf : file ≠ []) :
    ∃ seg rest, readUntil delim file = some (seg, rest) ∧ seg ++ rest = file ∧ seg ≠ [] ∧
      (EndsWith seg delim ∨ rest = []) ∧ NoEarlier seg delim := by
  cases file with
  | nil => exact absurd rfl hf
  | cons c rest =>
    have hno : NoEarlier [c] delim := by intro k h0 h1; simp at h1; omega
    exact ⟨_, _, rfl, untilLoop_spec delim rest [c] (by simp) hno⟩

/-- end of data is reported exactly when nothing is left -/
theorem readUntil_none_iff (delim file : Bytes) : readUntil delim file = none ↔ file = [] := by
  cases file <;> simp [readUntil]

theorem endsWith_singleton (acc : Bytes) (d : UInt8) : EndsWith acc [d] ↔ acc.getLast? = some d := by
  rw [endsWith_iff_suffix, List.getLast?_eq_some_iff]
  exact ⟨fun ⟨t, h⟩ => ⟨t, h.symm⟩, fun ⟨t, h⟩ => ⟨t, h.symm⟩⟩

/-- `gp_file_read_line` keeps the last byte read in `c`, which is all the delimiter test needs -/
theorem lineLoop_eq (rest : Bytes) (acc : Bytes) (c : UInt8) (hc : acc.getLast? = some c) :
    lineLoop acc c rest = untilLoop [10] acc rest := by
  induction rest generalizing acc c with
  | nil => rfl
  | cons d rest ih =>
    have : EndsWith acc [10] ↔ c = 10 := by rw [endsWith_singleton, hc, Option.some.injEq]
    simp only [lineLoop, untilLoop_cons, this]
    split
    · rfl
    · exact ih _ d (by simp)

/-- C16: reading a line is reading until "\\n" -/
theorem readLine_eq_readUntil (file : Bytes) : readLine file = readUntil [10] file := by
  cases file with
  | nil => rfl
  | cons c rest => simp only [readLine, readUntil]; rw [lineLoop_eq rest [c] c (by simp)]

/-- C16: the segments of a piecewise read concatenate to the file, for any reader that splits off a non-empty
segment while data is left -/
theorem readAll_concat (rd : Bytes → Option (Bytes × Bytes))
    (hrd : ∀ file, file ≠ [] → ∃ seg rest, rd file = some (seg, rest) ∧ seg ++ rest = file ∧ seg ≠ [])
    (hnone : rd [] = none) : ∀ (fuel : Nat) (file : Bytes), file.length < fuel → (readAll rd fuel file).flatten = file := by
  intro fuel
  induction fuel with
  | zero => intro file h; omega
  | succ f ih =>
    intro file hl
    unfold readAll
    by_cases hf : file = []
    · subst hf; simp [hnone]
    · obtain ⟨seg, rest, e, hcat, hne⟩ := hrd file hf
      rw [e]
      simp only [List.flatten_cons]
      have hlen : rest.length < f := by
        have : seg.length + rest.length = file.length := by rw [← hcat]; simp
        have : 0 < seg.length := by cases seg with | nil => exact absurd rfl hne | cons a t => simp
        omega
      rw [ih rest hlen, hcat]

/-- reading a file line by line / delimiter by delimiter returns all of it, in order -/
theorem until_all (delim file : Bytes) : (readAll (readUntil delim) (file.length + 1) file).flatten = file :=
  readAll_concat (readUntil delim)
    (fun f hf => by obtain ⟨s, r, e, c, n, _⟩ := readUntil_partition delim f hf; exact ⟨s, r, e, c, n⟩) rfl _ _ (by omega)

theorem lines_all (file : Bytes) : (readAll readLine (file.length + 1) file).flatten = file := by
  have : readLine = readUntil [10] := funext readLine_eq_readUntil
  rw [this]; exact until_all [10] file

-- the delimiter "aab" that starts inside a failed partial match: "aaab|x"
example : readAll (readUntil [97, 97, 98]) 6 [97, 97, 97, 98, 120] = [[97, 97, 97, 98], [120]] := by decide
example : readAll readLine 7 [97, 10, 10, 98, 99] = [[97, 10], [10], [98, 99]] := by decide

/-- a chunk is one code point as the reader sees it: a lead byte and as many bytes as the length table says -/
def ValidChunk (c : Bytes) : Prop := ∃ b t, c = b :: t ∧ Gpc.Utf8.cpLen b = c.length

theorem readCp_chunk (c rest : Bytes) (h : ValidChunk c) : readCp (c ++ rest) = some (c, c, rest) := by
  obtain ⟨b, t, rfl, hl⟩ := h
  simp only [List.length_cons] at hl
  simp only [List.cons_append, readCp, hl]
  have h1 : ¬ (t ++ rest).length + 1 < t.length + 1 := by simp [List.length_append]
  rw [if_neg h1]
  simp [List.take_of_length_le]

/-- skip: the first chunk outside the set and what follows it -/
def skipC (set : Bytes) : List Bytes → Option (Bytes × List Bytes)
  | [] => none
  | c :: r => if inSet set c then skipC set r else some (c, r)

/-- collect until a member (consumed) or the end -/
def collectC (set : Bytes) : Bytes → List Bytes → Bytes × List Bytes
  | acc, [] => (acc, [])
  | acc, c :: r => if inSet set c then (acc, r) else collectC set (acc ++ c) r

def stripC (set : Bytes) (chunks : List Bytes) : Option (Bytes × List Bytes) :=
  (skipC set chunks).map fun (c, r) => collectC set c r

theorem stripSkip_chunks (set : Bytes) (chunks : List Bytes) (hv : ∀ c ∈ chunks, ValidChunk c) (fuel : Nat)
    (hf : chunks.length < fuel) :
    stripSkip set fuel chunks.flatten = (skipC set chunks).map fun (c, r) => (c, r.flatten) := by
  induction chunks generalizing fuel with
  | nil => cases fuel <;> simp [stripSkip, readCp, skipC]
  | cons c r ih =>
    cases fuel with
    | zero => simp at hf
    | succ f =>
      simp only [List.flatten_cons, stripSkip, readCp_chunk c r.flatten (hv c (by simp)), skipC]
      by_cases hin : inSet set c
      · simp only [hin, if_true]
        exact ih (fun x hx => hv x (by simp [hx])) f (by simp at hf; omega)
      · simp [hin]

theorem stripCollect_chunks (set : Bytes) (chunks : List Bytes) (hv : ∀ c ∈ chunks, ValidChunk c) (acc : Bytes) (fuel : Nat)
    (hf : chunks.length < fuel) :
    stripCollect set fuel acc chunks.flatten = ((collectC set acc chunks).1, (collectC set acc chunks).2.flatten) := by
  induction chunks generalizing fuel acc with
  | nil => cases fuel <;> simp [stripCollect, readCp, collectC]
  | cons c r ih =>
    cases fuel with
    | zero => simp at hf
    | succ f =>
      simp only [List.flatten_cons, stripCollect, readCp_chunk c r.flatten (hv c (by simp)), collectC]
      by_cases hin : inSet set c
      · simp [hin]
      · simp only [hin, Bool.false_eq_true, if_false]
        exact ih (fun x hx => hv x (by simp [hx])) (acc ++ c) f (by simp at hf; omega)

theorem ValidChunk.ne_nil {c : Bytes} (h : ValidChunk c) : c ≠ [] := by
  obtain ⟨b, t, rfl, _⟩ := h; exact List.cons_ne_nil b t

theorem skipC_suffix (set : Bytes) (chunks : List Bytes) (c : Bytes) (r : List Bytes) (h : skipC set chunks = some (c, r)) :
    c :: r <:+ chunks := by
  induction chunks with
  | nil => simp [skipC] at h
  | cons d t ih =>
    simp only [skipC] at h
    split at h
    · exact (ih h).trans (List.suffix_cons d t)
    · cases h; exact List.suffix_refl _

theorem collectC_suffix (set : Bytes) (acc : Bytes) (chunks : List Bytes) : (collectC set acc chunks).2 <:+ chunks := by
  induction chunks generalizing acc with
  | nil => exact List.suffix_refl _
  | cons c r ih =>
    simp only [collectC]
    split
    · exact List.suffix_cons c r
    · exact (ih _).trans (List.suffix_cons c r)

/-- on a file of whole code points the byte-level reader is the chunk-level one -/
theorem readStrip_chunks (set : Bytes) (chunks : List Bytes) (hv : ∀ c ∈ chunks, ValidChunk c) :
    readStrip set chunks.flatten = (stripC set chunks).map fun (seg, r) => (seg, r.flatten) := by
  unfold readStrip stripC
  have hlen := length_le_flatten chunks fun c hc => (hv c hc).ne_nil
  rw [stripSkip_chunks set chunks hv _ (by omega)]
  cases hs : skipC set chunks with
  | none => simp
  | some p =>
    obtain ⟨c, r⟩ := p
    have hsuf := skipC_suffix set chunks c r hs
    have hv' : ∀ x ∈ r, ValidChunk x := fun x hx => hv x (hsuf.subset (List.mem_cons_of_mem _ hx))
    have := length_le_flatten r fun x hx => (hv' x hx).ne_nil
    simp only [Option.map_some]
    rw [stripCollect_chunks set r hv' c _ (by omega)]

/-- maximal runs of non-members, each run flattened -/
def runs (set : Bytes) : Bytes → List Bytes → List Bytes
  | cur, [] => if cur.isEmpty then [] else [cur]
  | cur, c :: r =>
    if inSet set c then (if cur.isEmpty then runs set [] r else cur :: runs set [] r)
    else runs set (cur ++ c) r

theorem runs_skip (set : Bytes) (chunks : List Bytes) :
    runs set [] chunks = match skipC set chunks with
      | none => []
      | some (c, r) => runs set c r := by
  induction chunks with
  | nil => rfl
  | cons d t ih => by_cases hin : inSet set d <;> simp [runs, skipC, hin, ih]

theorem runs_collect (set : Bytes) (chunks : List Bytes) (cur : Bytes) (hcur : cur ≠ []) :
    runs set cur chunks = (collectC set cur chunks).1 :: runs set [] (collectC set cur chunks).2 := by
  induction chunks generalizing cur with
  | nil => simp [runs, collectC, hcur]
  | cons d t ih =>
    by_cases hin : inSet set d
    · simp [runs, collectC, hin, hcur]
    · simp only [runs, collectC, hin, Bool.false_eq_true, if_false]
      exact ih (cur ++ d) (by simp [hcur])

theorem strip_all_gen (set : Bytes) (fuel : Nat) (chunks : List Bytes) (hv : ∀ c ∈ chunks, ValidChunk c)
    (hf : chunks.length < fuel) : readAll (readStrip set) fuel chunks.flatten = runs set [] chunks := by
  induction fuel generalizing chunks with
  | zero => omega
  | succ f ih =>
    rw [readAll, readStrip_chunks set chunks hv, runs_skip, stripC]
    cases hk : skipC set chunks with
    | none => rfl
    | some q =>
      obtain ⟨c, r0⟩ := q
      -- what is left after the read is a suffix of the chunks, after the first chunk kept
      have h1 := skipC_suffix set chunks c r0 hk
      have h2 := collectC_suffix set c r0
      have := h1.length_le; have := h2.length_le
      simp only [Option.map_some, runs_collect set r0 _ (hv c (h1.subset List.mem_cons_self)).ne_nil]
      rw [ih _ (fun x hx => hv x (h1.subset (List.mem_cons_of_mem _ (h2.subset hx)))) (by simp at *; omega)]

/-- C16 (strip): on a file made of whole code points, reading it piece by piece with `gp_file_read_strip` yields
exactly the maximal runs of code points outside the set, in order, until end of data. -/
theorem strip_all (set : Bytes) (chunks : List Bytes) (hv : ∀ c ∈ chunks, ValidChunk c) :
    readAll (readStrip set) (chunks.flatten.length + 1) chunks.flatten = runs set [] chunks :=
  strip_all_gen set _ chunks hv (by have := length_le_flatten chunks fun c hc => (hv c hc).ne_nil; omega)

/-- the runs keep every code point outside the set, in order, and nothing else -/
theorem runs_flatten (set : Bytes) (chunks : List Bytes) (cur : Bytes) :
    (runs set cur chunks).flatten = cur ++ (chunks.filter fun c => !inSet set c).flatten := by
  -- a run that is dropped because it is empty contributes `[]` to either side
  have hdrop (cur : Bytes) (rest : List Bytes) :
      (if cur.isEmpty then rest else cur :: rest).flatten = cur ++ rest.flatten := by
    split
    · rename_i h; rw [List.isEmpty_iff.1 h, List.nil_append]
    · rfl
  induction chunks generalizing cur with
  | nil => simpa [runs] using hdrop cur []
  | cons c r ih =>
    by_cases hin : inSet set c
    · rw [runs, if_pos hin, hdrop, ih, List.filter_cons_of_neg (by simp [hin])]; rfl
    · rw [runs, if_neg hin, ih, List.filter_cons_of_pos (by simp [hin]), List.flatten_cons, List.append_assoc]

theorem runs_ne_nil (set : Bytes) (chunks : List Bytes) (cur : Bytes) : ∀ s ∈ runs set cur chunks, s ≠ [] := by
  have hkeep (cur : Bytes) (rest : List Bytes) (s : Bytes) (hs : s ∈ if cur.isEmpty then rest else cur :: rest) :
      s ≠ [] ∨ s ∈ rest := by
    split at hs
    · exact Or.inr hs
    · rename_i h
      rcases List.mem_cons.1 hs with rfl | hs
      · exact Or.inl fun e => h (by simp [e])
      · exact Or.inr hs
  induction chunks generalizing cur with
  | nil => intro s hs; exact (hkeep cur [] s hs).resolve_right List.not_mem_nil
  | cons c r ih =>
    intro s hs
    rw [runs] at hs
    split at hs
    · exact (hkeep cur _ s hs).elim id (ih [] s)
    · exact ih _ s hs

/-- every segment is non-empty -/
theorem runs_nonempty (set : Bytes) (chunks : List Bytes) (hne : ∀ c ∈ chunks, c ≠ []) (cur : Bytes) :
    ∀ s ∈ runs set cur chunks, s ≠ [] :=
  runs_ne_nil set chunks cur

-- the set { space, comma }; the last run needs no trailing delimiter
example : readAll (readStrip [32, 44]) 12 [32, 97, 98, 44, 32, 0xC3, 0xA4, 44, 99] = [[97, 98], [0xC3, 0xA4], [99]] := by decide

/-- the hypothesis is met by ordinary text: "a b" with the set " " -/
example : (∀ c ∈ [[97], [32], [98]], ValidChunk c) ∧
    readAll (readStrip [32]) 4 [97, 32, 98] = [[97], [98]] := by
  refine ⟨?_, by decide⟩
  intro c hc
  simp only [List.mem_cons, List.not_mem_nil, or_false] at hc
  rcases hc with rfl | rfl | rfl <;> exact ⟨_, _, rfl, by decide⟩

theorem strFileRead_stat (e : ReadEnv) (n : Nat) (hs : e.statSize = some n) :
    strFileRead e =
      if e.opens = true ∧ n ≤ e.stream.length then (0, some (e.stream.take n)) else (-1, none) := by
  have hmin : min n e.stream.length = n ↔ n ≤ e.stream.length := by omega
  simp only [strFileRead, hs, List.length_take, ne_eq, hmin]
  cases e.opens
  · rfl
  · by_cases hl : n ≤ e.stream.length <;> simp [hl]

/-- C16, read faults: `gp_str_file(.., "read")` reports success exactly when `stat` and `fopen` succeeded and the
stream delivered as many bytes as `stat` had sampled. -/
theorem read_ok_iff (e : ReadEnv) :
    (strFileRead e).1 = 0 ↔ ∃ n, e.statSize = some n ∧ e.opens = true ∧ n ≤ e.stream.length := by
  cases hs : e.statSize with
  | none => simp [strFileRead, hs]
  | some n => by_cases h : e.opens = true ∧ n ≤ e.stream.length <;> simp [strFileRead_stat e n hs, h]

/-- the destination then holds exactly those bytes -/
theorem read_ok_content (e : ReadEnv) (h : (strFileRead e).1 = 0) :
    ∃ n, e.statSize = some n ∧ (strFileRead e).2 = some (e.stream.take n) ∧ (e.stream.take n).length = n := by
  obtain ⟨n, hs, ho, hl⟩ := (read_ok_iff e).1 h
  exact ⟨n, hs, by rw [strFileRead_stat e n hs, if_pos ⟨ho, hl⟩], by rw [List.length_take]; omega⟩

/-- a file that shrank between the size sample and the read is never reported as read -/
theorem short_read_fails (e : ReadEnv) (n : Nat) (hs : e.statSize = some n) (hl : e.stream.length < n) :
    (strFileRead e).1 = -1 := by
  rw [strFileRead_stat e n hs, if_neg fun h => by omega]

/-- C16, write faults: success exactly when the file opened, every byte was accepted and the close flushed. -/
theorem write_ok_iff (e : WriteEnv) (append : Bool) (old s : Bytes) :
    (strFileWrite e append old s).1 = 0 ↔ e.opens = true ∧ s.length ≤ e.accepts ∧ e.closeOk = true := by
  unfold strFileWrite
  split
  · -- `fopen` failed
    rename_i ho; simp only [Bool.not_eq_true'] at ho; simp [ho]
  · split
    · -- the device took fewer bytes than were written
      rename_i ha; simp; omega
    · split
      · -- `fclose` could not flush
        rename_i hc; simp only [Bool.not_eq_true'] at hc; simp [hc]
      · rename_i ho ha hc
        exact ⟨fun _ => ⟨by simpa using ho, by omega, by simpa using hc⟩, fun _ => rfl⟩

/-- C16, round trip: without faults, writing `a`, reading back, appending `b`, reading back gives `a` and `a ++ b`. -/
theorem write_read_roundtrip (old a b : Bytes) :
    strFileWrite (quietWrite a) false old a = (0, some a) ∧
    strFileRead (quietRead a) = (0, some a) ∧
    strFileWrite (quietWrite b) true a b = (0, some (a ++ b)) ∧
    strFileRead (quietRead (a ++ b)) = (0, some (a ++ b)) := by
  -- `List.length_append` would rewrite the size `stat` reports for `a ++ b`, and `take` of the whole length
  -- would no longer be recognised
  refine ⟨?_, ?_, ?_, ?_⟩ <;> simp [strFileWrite, strFileRead, quietWrite, quietRead, -List.length_append]

-- non-vacuity: a file of 5 bytes that holds 3 when it is read; a device that takes 4 of 10 bytes
example : strFileRead { statSize := some 5, opens := true, stream := [1, 2, 3] } = (-1, none) := by decide
example : (strFileWrite { opens := true, accepts := 4, closeOk := true } false [] (List.replicate 10 7)).1 = -1 := by decide

end Gpc.FileIO
