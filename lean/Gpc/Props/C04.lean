import Gpc.Model.Str
import Gpc.Proofs.Str
import Gpc.Proofs.Utf8Sync
import Gpc.Proofs.List
/-!
# C04 — string edits equal the byte-sequence model; a terminator always fits

`Inv` (`length ≤ capacity`, storage of `capacity + 1` bytes) is kept by `gp_str_reserve` on every storage
kind and by every edit, so that `gp_cstr` always fits; each edit yields the bytes of the list operation.
For the operations on code point sets (UTF-8 trim, split) the text is the concatenation of the code
points `hs`, the set string that of `cs`; the result is the list operation on `hs`.
-/
namespace Gpc.Str
open Gpc.Arr (memmove memcpyIn np2 Kind memcpyIn_spec memmove_front np2_gt write_spec)
open Gpc.Search (memmem OccursAt memmem_fits memmem_isSome_iff)
open Gpc.Utf8 (IsCp cpLen occursAt_of_mem mem_of_occursAt)

structure Inv (s : Str) : Prop where
  len_le : s.length ≤ s.capacity
  size : s.data.length = s.capacity + 1

def CanGrow (s : Str) (need : Nat) : Prop := s.kind ≠ .stack false ∨ need ≤ s.capacity

theorem Inv.bytes_length {s : Str} (h : Inv s) : (bytes s).length = s.length := by
  have := h.len_le
  rw [bytes, List.length_take, h.size]; omega

theorem Inv.update {s : Str} (h : Inv s) {b : Bytes} {l : Nat} (hb : b.length = s.data.length) (hl : l ≤ s.capacity) :
    Inv { s with data := b, length := l } := ⟨hl, hb.trans h.size⟩

/-- the terminator byte is set aside on every storage kind -/
theorem reserve_spec (s : Str) (r : Nat) (h : Inv s) :
    Inv (reserve s r) ∧ (reserve s r).length = s.length ∧ (reserve s r).data.take s.length = bytes s ∧
      (CanGrow s r → r ≤ (reserve s r).capacity) ∧ (s.kind ≠ .stack false → (reserve s r).kind ≠ .stack false) := by
  obtain ⟨hl, hs⟩ := h
  have hgt := np2_gt (r + 1)
  unfold reserve bytes
  split
  · rename_i hk
    exact ⟨⟨hl, hs⟩, rfl, rfl, fun hg => hg.resolve_left (fun hn => hn hk), fun hn => absurd hk hn⟩
  · split
    · refine ⟨⟨show s.length ≤ np2 (r + 1) - 1 by omega, ?_⟩, rfl, ?_, fun _ => show r ≤ np2 (r + 1) - 1 by omega,
        fun hn => ?_⟩
      · simp only [List.length_append, List.length_take, List.length_replicate, hs]; omega
      · show List.take _ (List.take _ s.data ++ _) = _
        rw [List.take_append_of_le_length (by simp only [List.length_take]; omega), List.take_take, Nat.min_self]
      · show (match s.kind with | .stack _ => Kind.heap | k => k) ≠ _
        split
        · exact nofun
        · exact hn
    · exact ⟨⟨hl, hs⟩, rfl, rfl, fun hg => by unfold CanGrow at hg; omega, id⟩

theorem new_inv (capacity : Nat) (init : Bytes) (k : Kind) : Inv (new capacity init k) := by
  refine ⟨Nat.le_max_left _ _, ?_⟩
  simp only [new, List.length_append, List.length_replicate]
  have := Nat.le_max_left init.length capacity
  omega

theorem new_bytes (capacity : Nat) (init : Bytes) (k : Kind) : bytes (new capacity init k) = init := by
  simp [bytes, new]

/-- `gp_cstr` always fits: the write is inside the storage and changes neither the length nor the content -/
theorem cstr_ok (s : Str) (h : Inv s) : ∃ s', cstr s = some s' ∧ bytes s' = bytes s ∧ s'.length = s.length ∧ Inv s' := by
  obtain ⟨d, e, l, t, -⟩ := memcpyIn_spec s.data s.length [0] (by have := h.len_le; rw [h.size]; exact Nat.succ_le_succ this)
  exact ⟨{ s with data := d }, by rw [cstr, e]; rfl, t _ (Nat.le_refl _), rfl, h.update l h.len_le⟩

/-- an edit = reserve, then a buffer operation on the storage with the old length -/
theorem edit_spec (s : Str) (need : Nat) (op : Bytes → Option (Bytes × Nat)) (spec : Bytes) (h : Inv s)
    (hg : CanGrow s need)
    (hop : ∀ buf : Bytes, need + 1 ≤ buf.length → s.length + 1 ≤ buf.length → buf.take s.length = bytes s →
      ∃ b, op buf = some (b, need) ∧ b.length = buf.length ∧ b.take need = spec) :
    ∃ s', withBuf (reserve s need) (op (reserve s need).data) = some s' ∧ Inv s' ∧ bytes s' = spec ∧ s'.length = need := by
  obtain ⟨hi, hl, hb, hc, -⟩ := reserve_spec s need h
  generalize reserve s need = s1 at *
  have := hi.len_le
  obtain ⟨b, e, lb, tb⟩ := hop s1.data (by have := hc hg; rw [hi.size]; omega) (by rw [hi.size]; omega) hb
  exact ⟨_, by rw [e]; rfl, hi.update lb (hc hg), tb, rfl⟩

theorem copy_spec (s : Str) (src : Bytes) (h : Inv s) (hg : CanGrow s src.length) :
    ∃ s', copy s src = some s' ∧ Inv s' ∧ bytes s' = src ∧ s'.length = src.length := by
  refine edit_spec s src.length (fun buf => (memcpyIn buf 0 src).map fun b => (b, src.length)) src h hg
    fun buf hb _ _ => ?_
  obtain ⟨b, e, r⟩ := write_spec buf src (by omega)
  exact ⟨b, by rw [e]; rfl, r⟩

theorem append_spec (s : Str) (src : Bytes) (h : Inv s) (hg : CanGrow s (s.length + src.length)) :
    ∃ s', append s src = some s' ∧ Inv s' ∧ bytes s' = bytes s ++ src ∧ s'.length = s.length + src.length :=
  edit_spec s _ (fun buf => bAppend buf s.length src) _ h hg
    fun buf hb _ hc => bAppend_spec buf src _ s.length hc (by omega)

theorem insert_spec (s : Str) (pos : Nat) (src : Bytes) (h : Inv s) (hp : pos ≤ s.length)
    (hg : CanGrow s (s.length + src.length)) :
    ∃ s', insert s pos src = some s' ∧ Inv s' ∧
      bytes s' = (bytes s).take pos ++ src ++ (bytes s).drop pos ∧ s'.length = s.length + src.length :=
  edit_spec s _ (fun buf => bInsert buf s.length pos src) _ h hg
    fun buf hb _ hc => bInsert_spec buf src _ s.length pos hc hp (by omega)

theorem repeat_spec (s : Str) (n : Nat) (mem : Bytes) (h : Inv s) (hg : CanGrow s (n * mem.length)) :
    ∃ s', rep s n mem = some s' ∧ Inv s' ∧ bytes s' = (List.replicate n mem).flatten ∧ s'.length = n * mem.length :=
  edit_spec s _ (fun buf => bRepeat buf n mem) _ h hg fun buf hb _ _ => bRepeat_spec buf mem n (by omega)

theorem slice_self_spec (s : Str) (start stop : Nat) (h : Inv s) (h1 : start ≤ stop) (h2 : stop ≤ s.length) :
    ∃ s', sliceSelf s start stop = some s' ∧ Inv s' ∧
      bytes s' = ((bytes s).drop start).take (stop - start) ∧ s'.length = stop - start := by
  have := h.len_le
  obtain ⟨b, e, l, t⟩ := bSliceSelf_spec s.data _ s.length start stop rfl h1 h2 (by rw [h.size]; omega)
  exact ⟨_, by rw [sliceSelf, e]; rfl, h.update l (by omega), t, rfl⟩

theorem slice_from_spec (s : Str) (src : Bytes) (start stop : Nat) (h : Inv s) (h1 : start ≤ stop)
    (h2 : stop ≤ src.length) (hg : CanGrow s (stop - start)) :
    ∃ s', sliceFrom s src start stop = some s' ∧ Inv s' ∧
      bytes s' = (src.drop start).take (stop - start) ∧ s'.length = stop - start :=
  edit_spec s _ (fun buf => bSliceFrom buf src start stop) _ h hg
    fun buf hb _ _ => bSliceFrom_spec buf src start stop h2 (by omega)

/-- one replacement, as `replace` and `replaceAll` perform it for a match at `pos` -/
theorem replaceAt_spec (s : Str) (needle repl : Bytes) (pos : Nat) (h : Inv s) (hk : s.kind ≠ .stack false)
    (hfit : pos + needle.length ≤ s.length) :
    ∃ s', withBuf (reserve s (s.length + repl.length - needle.length))
        (bReplaceRange (reserve s (s.length + repl.length - needle.length)).data s.length pos (pos + needle.length) repl)
          = some s' ∧
      Inv s' ∧ s'.kind ≠ .stack false ∧ bytes s' = (bytes s).take pos ++ repl ++ (bytes s).drop (pos + needle.length) := by
  obtain ⟨s', e, i, b, -⟩ := edit_spec s (s.length + repl.length - needle.length)
    (fun buf => bReplaceRange buf s.length pos (pos + needle.length) repl) _ h (Or.inl hk) fun buf hb hl hc => by
      have := bReplaceRange_spec buf repl _ s.length pos (pos + needle.length) hc (Nat.le_add_right _ _) hfit
        (Nat.le_of_succ_le hl) (by omega)
      rwa [Nat.add_sub_cancel_left] at this
  -- `withBuf` leaves the storage kind alone
  obtain ⟨p, -, rfl⟩ := Option.map_eq_some_iff.1 e
  exact ⟨_, e, i, (reserve_spec s _ h).2.2.2.2 hk, b⟩

/-- the left-most match at or after `start` is replaced, or not-found is reported and the string left alone -/
theorem replace_spec (s : Str) (needle repl : Bytes) (start : Nat) (h : Inv s) (hn : needle ≠ [])
    (hs : start ≤ s.length) (hk : s.kind ≠ .stack false) :
    (memmem ((bytes s).drop start) needle = none → replace s needle repl start = some (s, none)) ∧
    (∀ k, memmem ((bytes s).drop start) needle = some k →
      ∃ s', replace s needle repl start = some (s', some (k + start)) ∧ Inv s' ∧ s'.kind ≠ .stack false ∧
        bytes s' = (bytes s).take (k + start) ++ repl ++ (bytes s).drop (k + start + needle.length)) := by
  unfold replace
  rw [bFind_eq _ (bytes s) _ _ _ rfl hs]
  refine ⟨fun hm => by rw [hm]; rfl, fun k hm => ?_⟩
  have hfit := memmem_fits hm hn
  rw [List.length_drop, h.bytes_length] at hfit
  obtain ⟨s', e, r⟩ := replaceAt_spec s needle repl (k + start) h hk (by omega)
  exact ⟨s', by rw [hm]; simp only [Option.map_some, e], r⟩

/-- scan left to right; at the first occurrence splice the replacement and continue after it
(occurrences do not overlap, the replacement is not rescanned) -/
def replaceAllSpec (needle repl : Bytes) : (fuel : Nat) → Bytes → Bytes
  | 0, s => s
  | fuel + 1, s =>
    match memmem s needle with
    | none => s
    | some k => s.take k ++ repl ++ replaceAllSpec needle repl fuel (s.drop (k + needle.length))

/-- `gp_str_replace_all` yields the specification's bytes, the specification recursing on the same
`fuel`; the returned count `c` (and so the argument `count`) is left unspecified -/
theorem replaceAll_spec (needle repl : Bytes) (hn : needle ≠ []) (fuel : Nat) (s : Str) (start count : Nat)
    (h : Inv s) (hs : start ≤ s.length) (hk : s.kind ≠ .stack false) :
    ∃ s' c, replaceAll needle repl fuel s start count = some (s', c) ∧ Inv s' ∧
      bytes s' = (bytes s).take start ++ replaceAllSpec needle repl fuel ((bytes s).drop start) := by
  induction fuel generalizing s start count with
  | zero => exact ⟨s, count, rfl, h, by simp [replaceAllSpec]⟩
  | succ f ih =>
    simp only [replaceAll, replaceAllSpec, bFind_eq _ (bytes s) _ _ _ rfl hs]
    cases hm : memmem ((bytes s).drop start) needle with
    | none => exact ⟨s, count, rfl, h, by simp⟩
    | some k =>
      have hfit := memmem_fits hm hn
      rw [List.length_drop, h.bytes_length] at hfit
      obtain ⟨s2, e, i2, k2, b2⟩ := replaceAt_spec s needle repl (k + start) h hk (by omega)
      have hl : ((bytes s).take (k + start)).length = k + start := by rw [List.length_take, h.bytes_length]; omega
      have hl2 : k + start + repl.length ≤ s2.length := by
        rw [← i2.bytes_length, b2]; simp only [List.length_append, hl]; omega
      obtain ⟨s', c, q1, q2, q3⟩ := ih s2 (k + start + repl.length) (count + 1) i2 hl2 k2
      refine ⟨s', c, by simp only [Option.map_some, e, q1], q2, ?_⟩
      -- the scan resumes behind the replacement: the part before it is final
      rw [q3, b2, List.take_left' (by rw [List.length_append, hl]), List.drop_left' (by rw [List.length_append, hl])]
      simp only [Nat.add_comm k start, List.take_add, List.drop_drop, List.append_assoc, Nat.add_assoc]

/-- drop members of the set from the chosen ends -/
def trimSpec (set : Bytes) (left right : Bool) (cur : Bytes) : Bytes :=
  let a := if left then cur.dropWhile (memberByte set) else cur
  if right then (a.reverse.dropWhile (memberByte set)).reverse else a

theorem bTrim_spec (buf : Bytes) (len : Nat) (set : Bytes) (left right : Bool) (h : len ≤ buf.length) :
    ∃ b l, bTrim buf len set left right = some (b, l) ∧ b.length = buf.length ∧
      b.take l = trimSpec set left right (buf.take len) ∧ l ≤ len := by
  unfold bTrim trimSpec
  split
  · subst len
    exact ⟨buf, 0, rfl, rfl, (trim_nil (memberByte set) left right).symm, Nat.le_refl _⟩
  · cases left
    · exact ⟨buf, _, rfl, rfl, take_sub_suffix _ buf len right h, Nat.sub_le _ _⟩
    · have hc : (buf.take len).length = len := by rw [List.length_take]; omega
      have hp := (List.takeWhile_sublist (memberByte set) (l := buf.take len)).length_le
      obtain ⟨b1, e, l1, t1⟩ := memmove_front buf ((buf.take len).takeWhile (memberByte set)).length
        (len - ((buf.take len).takeWhile (memberByte set)).length) (by omega)
      simp only [if_true, e]
      refine ⟨b1, _, rfl, l1, ?_, Nat.le_trans (Nat.sub_le _ _) (Nat.sub_le _ _)⟩
      rw [take_sub_suffix _ b1 _ right (by omega), t1, ← List.drop_take, drop_takeWhile_length]

theorem trimAscii_spec (s : Str) (set : Bytes) (left right : Bool) (h : Inv s) :
    ∃ s', trimAscii s set left right = some s' ∧ Inv s' ∧ bytes s' = trimSpec set left right (bytes s) := by
  unfold trimAscii
  split
  · rename_i h0
    have : bytes s = [] := by rw [bytes, h0]; rfl
    exact ⟨s, rfl, h, by rw [this]; exact (trim_nil (memberByte set) left right).symm⟩
  · have := h.len_le
    obtain ⟨b, l, e, lb, t, hl⟩ := bTrim_spec s.data s.length set left right (by rw [h.size]; omega)
    exact ⟨_, by rw [e]; rfl, h.update lb (Nat.le_trans hl h.len_le), t⟩

/-- `gp_str_join` : the strings separated by the separator -/
def joinSpec (strs : List Bytes) (sep : Bytes) : Bytes :=
  match strs with
  | [] => []
  | _ => (strs.dropLast.map fun x => x ++ sep).flatten ++ strs.getLastD []

theorem join_length (strs : List Bytes) (sep : Bytes) (hne : strs ≠ []) :
    (joinSpec strs sep).length = (strs.map (·.length)).sum + sep.length * (strs.length - 1) := by
  induction strs with
  | nil => exact absurd rfl hne
  | cons x xs ih =>
    obtain _ | ⟨y, ys⟩ := xs
    · simp [joinSpec]
    · have := ih (List.cons_ne_nil _ _)
      simp only [joinSpec, List.dropLast_cons_cons, List.map_cons, List.flatten_cons, List.length_append,
        List.getLastD_cons, List.sum_cons, List.length_cons, Nat.add_sub_cancel, Nat.mul_succ] at this ⊢
      omega

theorem join_spec (s : Str) (strs : List Bytes) (sep : Bytes) (h : Inv s)
    (hg : CanGrow s ((strs.map (·.length)).sum + sep.length * (strs.length - 1))) :
    ∃ s', join s strs sep = some s' ∧ Inv s' ∧ bytes s' = joinSpec strs sep := by
  cases strs with
  | nil =>
    refine ⟨_, rfl, ⟨Nat.zero_le _, h.size⟩, ?_⟩
    simp [bytes, joinSpec]
  | cons x xs =>
    -- with the capacity sum rewritten as the length of the result, this is `copy` of the result
    have hl := join_length (x :: xs) sep (by simp)
    simp only [join]
    rw [← hl]
    rw [← hl] at hg
    obtain ⟨s', e, i, b, -⟩ := copy_spec s (joinSpec (x :: xs) sep) h hg
    exact ⟨s', e, i, b⟩

def cpMember (cs : List Bytes) (c : Bytes) : Bool := cs.contains c

/-- the library's test (`c[0] != 0 && strstr(set, c)`) decides membership in the set's code points -/
theorem memberCp_iff {cs : List Bytes} (hcs : CpSet cs) (c : Bytes) (hc : IsCp c) :
    memberCp cs.flatten c = cpMember cs c := by
  obtain _ | ⟨b, t⟩ := c
  · exact absurd rfl hc.1
  rw [Bool.eq_iff_iff, memberCp, cpMember, Bool.and_eq_true, bne_iff_ne, List.contains_iff_mem, memmem_isSome_iff]
  constructor
  · exact fun ⟨_, i, _, ho⟩ => mem_of_occursAt cs hcs.isCp (b :: t) hc i ho
  · -- a member has no NUL byte, so the `c[0] != 0` guard passes
    exact fun hm => ⟨fun hb => hcs.noNul _ hm (hb ▸ List.mem_cons_self), occursAt_of_mem cs (b :: t) hm⟩

/-- at a code point boundary: `pre` is read, the code points `hs` are ahead -/
theorem findFirstCp_spec {cs : List Bytes} (hcs : CpSet cs) (want : Bool) (pre : Bytes) (hs : List Bytes) (hhs : Cps hs)
    (fuel : Nat) (hf : hs.length < fuel) :
    findFirstCp cs.flatten want fuel (pre ++ hs.flatten) pre.length =
      match hs.dropWhile (fun h => cpMember cs h != want) with
      | [] => none
      | _ :: _ => some (pre.length + (hs.takeWhile (fun h => cpMember cs h != want)).flatten.length) := by
  induction hs generalizing pre fuel with
  | nil => cases fuel <;> simp [findFirstCp]
  | cons h t ih =>
    have hh := hhs.head
    have hpos := hh.length_pos
    obtain _ | f := fuel
    · omega
    -- the head code point is read whole (`headCp_eq`), and its test is `cpMember` (`memberCp_iff`)
    simp only [findFirstCp, List.length_append, List.flatten_cons, Nat.lt_add_right_iff_pos, Nat.add_pos_left hpos,
      if_true, List.drop_left, headCp_eq h t.flatten hh, isEmpty_of_isCp hh, Bool.false_eq_true, if_false,
      memberCp_iff hcs h hh, List.dropWhile_cons, List.takeWhile_cons]
    by_cases hw : cpMember cs h = want
    · simp [hw]
    · have := ih (pre ++ h) hhs.tail f (by rw [List.length_cons] at hf; omega)
      simp only [List.length_append, List.append_assoc] at this
      simp only [hw, beq_iff_eq, if_false, bne_iff_ne, ne_eq, not_false_eq_true, if_true, this, List.flatten_cons,
        List.length_append, Nat.add_assoc]

theorem leadingMembers_spec {cs : List Bytes} (hcs : CpSet cs) (hs : List Bytes) (hhs : Cps hs) (fuel : Nat)
    (hf : hs.length < fuel) :
    leadingMembers cs.flatten fuel hs.flatten = (hs.takeWhile (cpMember cs)).flatten.length := by
  induction hs generalizing fuel with
  | nil => cases fuel <;> rfl
  | cons h t ih =>
    have hh := hhs.head
    obtain _ | f := fuel
    · omega
    simp only [leadingMembers, List.flatten_cons, headCp_eq h t.flatten hh, isEmpty_of_isCp hh, Bool.false_eq_true,
      if_false, memberCp_iff hcs h hh, List.takeWhile_cons]
    split
    · rw [List.drop_left, ih hhs.tail f (by rw [List.length_cons] at hf; omega), List.flatten_cons, List.length_append]
    · rfl

/-- `r` lists the code points from the end -/
theorem trailingTrim_spec {cs : List Bytes} (hcs : CpSet cs) (r : List Bytes) (hr : Cps r) (post : Bytes) (fuel : Nat)
    (hf : r.length < fuel) :
    trailingTrim cs.flatten fuel (r.reverse.flatten ++ post) r.reverse.flatten.length
      = ((r.dropWhile (cpMember cs)).reverse).flatten.length := by
  induction r generalizing post fuel with
  | nil => cases fuel <;> rfl
  | cons last rest ih =>
    obtain _ | f := fuel
    · omega
    have hl := hr.head
    have hp := hl.length_pos
    obtain ⟨b, hb1, hb2⟩ : ∃ b, last[0]? = some b ∧ cpLen b = last.length := by
      obtain _ | ⟨b, t⟩ := last
      · exact absurd rfl hl.1
      · exact ⟨b, rfl, hl.cpLen⟩
    simp only [trailingTrim, List.reverse_cons, List.flatten_append, List.flatten_cons, List.flatten_nil, List.append_nil,
      List.length_append, if_neg (Nat.ne_of_gt (Nat.add_pos_right _ hp)), Nat.add_sub_assoc hp]
    rw [lastCpStart_spec rest.reverse.flatten last post hl (last.length - 1) (by omega) _ (by omega)]
    have h0 := getElem?_mid rest.reverse.flatten last post 0 hp
    rw [Nat.add_zero, hb1] at h0
    rw [h0]
    simp only [hb2, List.append_assoc, List.drop_left, List.take_left, memberCp_iff hcs last hl,
      List.dropWhile_cons, Nat.add_sub_cancel]
    split
    · exact ih hr.tail (last ++ post) f (by rw [List.length_cons] at hf; omega)
    · simp only [List.reverse_cons, List.flatten_append, List.flatten_cons, List.flatten_nil, List.append_nil,
        List.length_append]

/-- drop member code points from the chosen ends -/
def trimCpSpec (cs : List Bytes) (left right : Bool) (hs : List Bytes) : List Bytes :=
  let a := if left then hs.dropWhile (cpMember cs) else hs
  if right then (a.reverse.dropWhile (cpMember cs)).reverse else a

theorem take_trailingTrim {cs : List Bytes} (hcs : CpSet cs) (b : Bytes) (hs : List Bytes) (hhs : Cps hs)
    (hb : b.take hs.flatten.length = hs.flatten) (right : Bool) :
    let l := if right then trailingTrim cs.flatten (hs.flatten.length + 1) (b.take hs.flatten.length) hs.flatten.length
             else hs.flatten.length
    l ≤ hs.flatten.length ∧ b.take l = (if right then (hs.reverse.dropWhile (cpMember cs)).reverse else hs).flatten := by
  cases right
  · exact ⟨Nat.le_refl _, hb⟩
  · have ht := trailingTrim_spec hcs hs.reverse hhs.reverse [] (hs.flatten.length + 1)
      (by have := hhs.length_le_flatten; rw [List.length_reverse]; omega)
    rw [List.reverse_reverse, List.append_nil] at ht
    -- `hs` = the code points kept ++ the trailing members
    have hKX := reverse_dropWhile_append (cpMember cs) hs
    generalize (hs.reverse.dropWhile (cpMember cs)).reverse = K at ht hKX ⊢
    generalize (hs.reverse.takeWhile (cpMember cs)).reverse = X at hKX
    subst hKX
    rw [List.flatten_append, List.length_append] at ht hb ⊢
    simp only [if_true, hb, ht]
    refine ⟨Nat.le_add_right _ _, ?_⟩
    rw [← Nat.min_eq_left (Nat.le_add_right K.flatten.length X.flatten.length), ← List.take_take, hb, List.take_left]

theorem uTrim_spec {cs : List Bytes} (hcs : CpSet cs) (buf : Bytes) (hs : List Bytes) (hhs : Cps hs)
    (hle : hs.flatten.length ≤ buf.length) (hcur : buf.take hs.flatten.length = hs.flatten) (left right : Bool) :
    ∃ b l, uTrim buf hs.flatten.length cs.flatten left right = some (b, l) ∧ b.length = buf.length ∧
      b.take l = (trimCpSpec cs left right hs).flatten ∧ l ≤ hs.flatten.length := by
  have hsl := hhs.length_le_flatten
  unfold uTrim trimCpSpec
  split
  · obtain rfl : hs = [] := List.eq_nil_of_length_eq_zero (by omega)
    exact ⟨buf, 0, rfl, rfl, (congrArg List.flatten (trim_nil (cpMember cs) left right)).symm, Nat.le_refl _⟩
  · cases left
    · obtain ⟨hl, t⟩ := take_trailingTrim hcs buf hs hhs hcur right
      simp only [Bool.false_eq_true, false_and, if_false, Nat.sub_zero]
      exact ⟨buf, _, rfl, rfl, t, hl⟩
    · -- `hs` = the leading members `T` ++ the rest `D`
      obtain ⟨T, D, hT, hD, rfl⟩ := span_eq (cpMember cs) hs
      simp only [if_true, true_and, hcur, leadingMembers_spec hcs _ hhs _ (Nat.lt_succ_of_le hsl), hT, hD]
      rw [List.flatten_append, List.length_append] at hle hcur ⊢
      obtain _ | ⟨y, D'⟩ := D
      · exact ⟨buf, 0, by rw [if_pos (by simp)], rfl, by cases right <;> rfl, Nat.zero_le _⟩
      · have hy := hhs.right.head.length_pos
        obtain ⟨b1, e, l1, t1⟩ := memmove_front buf T.flatten.length (y :: D').flatten.length (by omega)
        rw [List.take_drop, hcur, List.drop_left] at t1
        obtain ⟨hl, t⟩ := take_trailingTrim hcs b1 (y :: D') hhs.right t1 right
        rw [if_neg (by rw [List.flatten_cons, List.length_append]; omega), Nat.add_sub_cancel_left]
        simp only [e]
        exact ⟨b1, _, rfl, l1, t, Nat.le_trans hl (Nat.le_add_left _ _)⟩

/-- UTF-8 trim of valid text (the code points `hs`) by the set with the code points `cs` is the trim of
the code point list -/
theorem trimUtf8_spec (cs : List Bytes) (hcs : ∀ x ∈ cs, IsCp x) (hz : ∀ x ∈ cs, (0 : UInt8) ∉ x)
    (s : Str) (h : Inv s) (hs : List Bytes) (hhs : ∀ x ∈ hs, IsCp x) (hb : bytes s = hs.flatten)
    (left right : Bool) :
    ∃ s', trimUtf8 s cs.flatten left right = some s' ∧ Inv s' ∧ bytes s' = (trimCpSpec cs left right hs).flatten := by
  have hlen : s.length = hs.flatten.length := by rw [← h.bytes_length, hb]
  have hsl := Cps.length_le_flatten hhs
  unfold trimUtf8
  split
  · obtain rfl : hs = [] := List.eq_nil_of_length_eq_zero (by omega)
    exact ⟨s, rfl, h, hb.trans (congrArg List.flatten (trim_nil (cpMember cs) left right)).symm⟩
  · have := h.len_le
    obtain ⟨b, l, e, lb, t, hl⟩ := uTrim_spec ⟨hcs, hz⟩ s.data hs hhs (by rw [h.size]; omega) (hlen ▸ hb) left right
    exact ⟨_, by rw [hlen, e]; rfl, h.update lb (Nat.le_trans (hlen ▸ hl) h.len_le), t⟩

/-- from a list that starts at a token: the maximal run of non-separators, then skip the separator run, repeat -/
def splitRuns (m : Bytes → Bool) : (fuel : Nat) → List Bytes → List (List Bytes)
  | 0, _ => []
  | _ + 1, [] => []
  | fuel + 1, x :: a =>
    ((x :: a).takeWhile fun y => !m y) :: splitRuns m fuel (((x :: a).dropWhile fun y => !m y).dropWhile m)

def splitCpSpec (m : Bytes → Bool) (hs : List Bytes) : List (List Bytes) := splitRuns m (hs.length + 1) (hs.dropWhile m)

theorem runs_rest_shorter (m : Bytes → Bool) (x : Bytes) (a : List Bytes) :
    (((x :: a).dropWhile fun y => !m y).dropWhile m).length ≤ a.length := by
  rw [List.dropWhile_cons]
  split
  · exact Nat.le_trans (List.dropWhile_sublist _).length_le (List.dropWhile_sublist _).length_le
  · rename_i hx
    rw [List.dropWhile_cons, if_pos (by simpa using hx)]
    exact (List.dropWhile_sublist _).length_le

theorem splitRuns_fuel (m : Bytes → Bool) (f1 f2 : Nat) (l : List Bytes) (h1 : l.length < f1) (h2 : l.length < f2) :
    splitRuns m f1 l = splitRuns m f2 l := by
  induction f1 generalizing f2 l with
  | zero => omega
  | succ g ih =>
    cases f2 with
    | zero => omega
    | succ g2 =>
      cases l with
      | nil => rfl
      | cons x a =>
        simp only [splitRuns]
        congr 1
        have := runs_rest_shorter m x a
        simp only [List.length_cons] at h1 h2
        exact ih g2 _ (by omega) (by omega)

theorem splitLoop_spec {cs : List Bytes} (hcs : CpSet cs) (fuel : Nat) (pre x : Bytes) (a : List Bytes)
    (ha : Cps (x :: a)) (hf : (x :: a).length < fuel) :
    splitLoop cs.flatten fuel (pre ++ (x :: a).flatten) pre.length
      = (splitRuns (cpMember cs) fuel (x :: a)).map List.flatten := by
  induction fuel generalizing pre x a with
  | zero => omega
  | succ f ih =>
    have hlen : ∀ (p : Bytes) (l : List Bytes), Cps l → l.length < (p ++ l.flatten).length + 1 :=
      fun p l hl => by have := hl.length_le_flatten; rw [List.length_append]; omega
    have hrest := runs_rest_shorter (cpMember cs) x a
    -- the token: the non-separators `T` in front of the remainder `D`
    obtain ⟨T, D, hT, hD, hTD⟩ := span_eq (fun y => !cpMember cs y) (x :: a)
    simp only [splitLoop, splitRuns, List.map_cons]
    rw [findFirstCp_spec hcs true pre (x :: a) ha _ (hlen pre _ ha)]
    simp only [Bool.bne_true, hT, hD, List.drop_left] at hrest ⊢
    have hDc : Cps D := Cps.right (hTD ▸ ha)
    rw [← hTD, List.flatten_append, ← List.append_assoc]
    cases D with
    | nil => cases f <;> simp [splitRuns]
    | cons y D' =>
      -- the separators `M` in front of the next token
      simp only [Nat.add_sub_cancel_left, List.take_left]
      rw [← List.length_append, findFirstCp_spec hcs false (pre ++ T.flatten) (y :: D') hDc _ (hlen _ _ hDc)]
      obtain ⟨M, R, hM, hR, hMR⟩ := span_eq (cpMember cs) (y :: D')
      simp only [Bool.bne_false, hM, hR] at hrest ⊢
      cases R with
      | nil => cases f <;> simp [splitRuns]
      | cons z R' =>
        have := ih (pre ++ T.flatten ++ M.flatten) z R' (Cps.right (hMR ▸ hDc))
          (by simp only [List.length_cons] at hrest hf ⊢; omega)
        dsimp only
        rw [← hMR, List.flatten_append, ← List.append_assoc, ← List.length_append, this]

/-- `gp_str_split` of valid UTF-8 text (the code points `hs`) with the separator set `cs` returns
the maximal runs of non-separator code points, in order -/
theorem split_spec (cs : List Bytes) (hcs : ∀ x ∈ cs, IsCp x) (hz : ∀ x ∈ cs, (0 : UInt8) ∉ x)
    (hs : List Bytes) (hhs : ∀ x ∈ hs, IsCp x) :
    split hs.flatten cs.flatten = (splitCpSpec (cpMember cs) hs).map List.flatten := by
  have hsl := Cps.length_le_flatten hhs
  have h0 := findFirstCp_spec ⟨hcs, hz⟩ false [] hs hhs (hs.flatten.length + 1) (by omega)
  obtain ⟨M, R, hM, hR, hMR⟩ := span_eq (cpMember cs) hs
  simp only [List.nil_append, List.length_nil, Nat.zero_add, Bool.bne_false, hM, hR] at h0
  simp only [split, splitCpSpec, h0, hR]
  cases R with
  | nil => rfl
  | cons z R' =>
    have hl : (z :: R').length ≤ hs.length := by rw [← hMR, List.length_append]; omega
    dsimp only
    rw [← hMR, List.flatten_append, splitLoop_spec ⟨hcs, hz⟩ _ _ z R' (Cps.right (hMR ▸ hhs))
        (by rw [← List.flatten_append, hMR]; omega),
      splitRuns_fuel _ _ (M ++ z :: R').length.succ _ (by rw [← List.flatten_append, hMR]; omega) (by rw [hMR]; omega)]

end Gpc.Str
