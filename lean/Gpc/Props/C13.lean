import Gpc.Model.Compare
import Gpc.Props.C12
import Gpc.Props.C07
import Gpc.Proofs.List
/-!
# C13 — comparison is a consistent total order; sorting returns a sorted permutation

The specification of the comparison is the lexicographic order on the code point lists (DESIGN.md section 6, C13);
the code point comparison `cmpCps` decides exactly that order (`cmpCps_neg_iff`), and `gp_str_compare` is the sign
of `cmpCps` on the keys `gp_str_sort` sorts by (`compare_eq_key`).
-/
namespace Gpc.Compare
open Gpc.CaseFull (Loc foldFull fold1)
open Gpc.Utf

theorem sgn_eq_sign (x : Int) : sgn x = x.sign := by
  unfold sgn
  rcases Int.lt_trichotomy x 0 with h | rfl | h
  · rw [if_pos h, Int.sign_eq_neg_one_of_neg h]
  · rfl
  · rw [if_neg (by omega), if_neg (by omega), Int.sign_eq_one_of_pos h]

theorem sgn_neg (x : Int) : sgn (-x) = - sgn x := by rw [sgn_eq_sign, sgn_eq_sign, Int.sign_neg]

theorem cmpCps_swap (a b : List Nat) : cmpCps b a = - cmpCps a b := by
  induction a generalizing b with
  | nil => cases b <;> rfl
  | cons x xs ih =>
    cases b with
    | nil => rfl
    | cons y ys =>
      simp only [cmpCps, eq_comm (a := y)]
      split
      · exact ih ys
      · omega

/-- C13, the comparison meets its specification: `cmpCps a b` is negative exactly when `a` is below `b` in the
lexicographic order on the code point lists (core's order on `List Nat`) -/
theorem cmpCps_neg_iff (a b : List Nat) : cmpCps a b < 0 ↔ a < b := by
  induction a generalizing b with
  | nil => cases b <;> simp [cmpCps]
  | cons x xs ih =>
    cases b with
    | nil => simp [cmpCps]
    | cons y ys =>
      rw [List.cons_lt_cons_iff, ← ih, cmpCps]
      split <;> omega

theorem cmpCps_nonpos_iff (a b : List Nat) : cmpCps a b ≤ 0 ↔ a ≤ b := by
  rw [← List.not_lt, ← cmpCps_neg_iff, cmpCps_swap a b]; omega

theorem cmpCps_zero_iff (a b : List Nat) : cmpCps a b = 0 ↔ a = b := by
  constructor
  · intro h
    exact List.le_antisymm ((cmpCps_nonpos_iff a b).1 (by omega))
      ((cmpCps_nonpos_iff b a).1 (by rw [cmpCps_swap a b]; omega))
  · rintro rfl
    have := cmpCps_swap a a; omega

theorem cmpCps_refl (a : List Nat) : cmpCps a a = 0 := (cmpCps_zero_iff a a).2 rfl

theorem cmpCps_antisymm (a b : List Nat) : sgn (cmpCps a b) = - sgn (cmpCps b a) := by
  rw [cmpCps_swap a b, sgn_neg, Int.neg_neg]

theorem cmpCps_total (a b : List Nat) : cmpCps a b ≤ 0 ∨ cmpCps b a ≤ 0 := by
  have := cmpCps_swap a b; omega

theorem cmpCps_trans (a b c : List Nat) (h1 : cmpCps a b ≤ 0) (h2 : cmpCps b c ≤ 0) : cmpCps a c ≤ 0 := by
  rw [cmpCps_nonpos_iff] at h1 h2 ⊢
  exact List.le_trans h1 h2

theorem cmpCps_neg_cases (a b : List Nat) :
    cmpCps a b < 0 ↔ (∃ p x y s t, a = p ++ x :: s ∧ b = p ++ y :: t ∧ x < y) ∨ (∃ y t, b = a ++ y :: t) :=
  (cmpCps_neg_iff a b).trans (lt_iff_split a b)

/-- `gp_str_compare` is the sign of the code point comparison of the keys `gp_str_sort` sorts by,
negated under the reverse flag -/
theorem compare_eq_key (fold collate reverse : Bool) (loc : Loc) (a b : List Nat) :
    compare fold collate reverse loc a b =
      if reverse then - sgn (cmpCps (sortKey fold collate loc a) (sortKey fold collate loc b))
      else sgn (cmpCps (sortKey fold collate loc a) (sortKey fold collate loc b)) := by
  cases fold <;> cases collate <;> rfl

theorem compare_reverse (fold collate : Bool) (loc : Loc) (a b : List Nat) :
    compare fold collate true loc a b = - compare fold collate false loc a b := by
  simp [compare_eq_key]

theorem compare_plain_zero_iff (loc : Loc) (a b : List Nat) : compare false false false loc a b = 0 ↔ a = b := by
  simp [compare_eq_key, sortKey, sgn_eq_sign, cmpCps_zero_iff]

theorem compare_antisymm (fold collate reverse : Bool) (loc : Loc) (a b : List Nat) :
    compare fold collate reverse loc a b = - compare fold collate reverse loc b a := by
  simp only [compare_eq_key, cmpCps_antisymm (sortKey fold collate loc a)]
  split <;> simp

theorem foldFull_eq (loc : Loc) (s : List Nat) : foldFull loc s = Gpc.SpecCase.toFold loc s :=
  congrArg (s.flatMap ·) (funext (Gpc.CaseFull.fold1_eq loc))

/-- C13, case folding: `gp_str_compare(.., GP_CASE_FOLD, locale)` is zero exactly when the Unicode full case
foldings (with the Turkic mappings under tr / az) of the two strings are equal, also for strings containing U+0000. -/
theorem compare_fold_zero_iff_spec (loc : Loc) (a b : List Nat) :
    compare true false false loc a b = 0 ↔ Gpc.SpecCase.toFold loc a = Gpc.SpecCase.toFold loc b := by
  simp [compare_eq_key, sortKey, sgn_eq_sign, cmpCps_zero_iff, foldFull_eq]

theorem insertBy_perm {α : Type} (le : α → α → Bool) (x : α) (l : List α) : (insertBy le x l).Perm (x :: l) := by
  induction l with
  | nil => exact List.Perm.refl _
  | cons y ys ih =>
    simp only [insertBy]
    split
    · exact List.Perm.refl _
    · exact (List.Perm.cons y ih).trans (List.Perm.swap x y ys)

theorem sortBy_perm {α : Type} (le : α → α → Bool) (l : List α) : (sortBy le l).Perm l := by
  induction l with
  | nil => exact List.Perm.refl _
  | cons x xs ih => exact (insertBy_perm le x _).trans (List.Perm.cons x ih)

theorem insertBy_sorted {α : Type} (le : α → α → Bool) (htot : ∀ a b, le a b = true ∨ le b a = true)
    (htr : ∀ a b c, le a b = true → le b c = true → le a c = true) (x : α) (l : List α)
    (h : l.Pairwise (fun a b => le a b = true)) : (insertBy le x l).Pairwise (fun a b => le a b = true) := by
  induction l with
  | nil => simp [insertBy]
  | cons y ys ih =>
    simp only [insertBy]
    rw [List.pairwise_cons] at h
    split
    · rename_i hxy
      rw [List.pairwise_cons]
      refine ⟨fun z hz => ?_, List.pairwise_cons.2 h⟩
      rcases List.mem_cons.1 hz with rfl | hz
      · exact hxy
      · exact htr _ _ _ hxy (h.1 z hz)
    · rename_i hxy
      have hyx : le y x = true := by rcases htot x y with h' | h'; exact absurd h' hxy; exact h'
      rw [List.pairwise_cons]
      refine ⟨fun z hz => ?_, ih h.2⟩
      have := (insertBy_perm le x ys).mem_iff.1 hz
      rcases List.mem_cons.1 this with rfl | hz'
      · exact hyx
      · exact h.1 z hz'

theorem sortBy_sorted {α : Type} (le : α → α → Bool) (htot : ∀ a b, le a b = true ∨ le b a = true)
    (htr : ∀ a b c, le a b = true → le b c = true → le a c = true) (l : List α) :
    (sortBy le l).Pairwise (fun a b => le a b = true) := by
  induction l with
  | nil => simp [sortBy]
  | cons x xs ih => exact insertBy_sorted le htot htr x _ ih

/-- C13, the comparators handed to `qsort` are total preorders (what `qsort` requires), for every flag combination -/
theorem comparator_total_preorder (fold collate reverse : Bool) (loc : Loc) :
    let le := fun (a b : List Nat) =>
      if reverse then decide (cmpCps (sortKey fold collate loc b) (sortKey fold collate loc a) ≤ 0)
      else decide (cmpCps (sortKey fold collate loc a) (sortKey fold collate loc b) ≤ 0)
    (∀ a b, le a b = true ∨ le b a = true) ∧ (∀ a b c, le a b = true → le b c = true → le a c = true) := by
  intro le
  constructor
  · intro a b
    cases reverse <;> simp only [le, Bool.false_eq_true, if_false, if_true, decide_eq_true_eq]
    · exact cmpCps_total _ _
    · exact (cmpCps_total _ _).symm
  · intro a b c h1 h2
    cases reverse <;> simp only [le, Bool.false_eq_true, if_false, if_true, decide_eq_true_eq] at h1 h2 ⊢
    · exact cmpCps_trans _ _ _ h1 h2
    · exact cmpCps_trans _ _ _ h2 h1

/-- C13, sorting: `gp_str_sort` returns a permutation of the same strings that is non-decreasing under the
comparison the flags select (non-increasing with the reverse flag), given that `qsort` sorts with respect to a
total preorder (the model sorts by insertion). -/
theorem sort_sorted_perm (fold collate reverse : Bool) (loc : Loc) (strs : List (List Nat)) :
    (sort fold collate reverse loc strs).Perm strs ∧
    (sort fold collate reverse loc strs).Pairwise (fun a b =>
      if reverse then cmpCps (sortKey fold collate loc b) (sortKey fold collate loc a) ≤ 0
      else cmpCps (sortKey fold collate loc a) (sortKey fold collate loc b) ≤ 0) := by
  obtain ⟨htot, htr⟩ := comparator_total_preorder fold collate reverse loc
  unfold sort
  refine ⟨sortBy_perm _ _, ?_⟩
  have := sortBy_sorted _ htot htr strs
  refine List.Pairwise.imp ?_ this
  intro a b h
  cases reverse <;> simpa using h

def encAll (cps : List Nat) : List UInt8 := cps.flatMap encodeU8

theorem encAll_cons (c : Nat) (cs : List Nat) : encAll (c :: cs) = encodeU8 c ++ encAll cs := rfl

theorem encAll_cons_length_pos (c : Nat) (cs : List Nat) : 0 < (encAll (c :: cs)).length := by
  have := byteLen_bounds c
  rw [encAll_cons, List.length_append, encodeU8_length]; omega

theorem encAll_length_zero (b : List Nat) : (encAll b).length = 0 ↔ b = [] := by
  cases b with
  | nil => simp [encAll]
  | cons c cs => have := encAll_cons_length_pos c cs; simp only [reduceCtorEq, iff_false]; omega

theorem cmpBytes_nil_left (s : List UInt8) (fuel : Nat) : cmpBytes [] s (fuel + 1) = some (-(s.length : Int)) := by
  simp [cmpBytes]
theorem cmpBytes_nil_right (s : List UInt8) (fuel : Nat) : cmpBytes s [] (fuel + 1) = some (s.length : Int) := by
  simp [cmpBytes]

theorem cmpBytes_cons (c d : Nat) (hc : c < 0x110000) (hd : d < 0x110000) (cs ds : List Nat) (fuel : Nat) :
    cmpBytes (encAll (c :: cs)) (encAll (d :: ds)) (fuel + 1) =
      if c = d then cmpBytes (encAll cs) (encAll ds) fuel else some ((c : Int) - (d : Int)) := by
  have n1 := List.isEmpty_eq_false_iff.2 (List.ne_nil_of_length_pos (encAll_cons_length_pos c cs))
  have n2 := List.isEmpty_eq_false_iff.2 (List.ne_nil_of_length_pos (encAll_cons_length_pos d ds))
  have hl : (encodeU8 c).length ≠ 0 := by rw [encodeU8_length]; have := byteLen_bounds c; omega
  simp only [cmpBytes, n1, n2, Bool.or_self, Bool.false_eq_true, if_false]
  rw [encAll_cons, encAll_cons, decode_encode c hc, decode_encode d hd]
  by_cases h : c = d
  · subst h; simp [hl]
  · simp [h]

/-- the byte loop decides exactly as the code point comparison of the decoded strings -/
theorem cmpBytes_encoding (a b : List Nat) (ha : ∀ c ∈ a, c < 0x110000) (hb : ∀ c ∈ b, c < 0x110000)
    (fuel : Nat) (hf : a.length < fuel) :
    ∃ r, cmpBytes (encAll a) (encAll b) fuel = some r ∧ sgn r = sgn (cmpCps a b) := by
  obtain ⟨f, rfl⟩ : ∃ f, fuel = f + 1 := ⟨fuel - 1, by omega⟩
  induction a generalizing b f with
  | nil =>
    -- the first string is exhausted: the lengths decide
    refine ⟨_, cmpBytes_nil_left _ _, ?_⟩
    cases b with
    | nil => rfl
    | cons d ds => rw [sgn_eq_sign, Int.sign_eq_neg_one_of_neg (by have := encAll_cons_length_pos d ds; omega)]; rfl
  | cons c cs ih =>
    cases b with
    | nil =>
      refine ⟨_, cmpBytes_nil_right _ _, ?_⟩
      rw [sgn_eq_sign, Int.sign_eq_one_of_pos (by have := encAll_cons_length_pos c cs; omega)]; rfl
    | cons d ds =>
      rw [cmpBytes_cons c d (ha c (by simp)) (hb d (by simp))]
      simp only [cmpCps]
      split
      · obtain ⟨g, rfl⟩ : ∃ g, f = g + 1 := ⟨f - 1, by simp at hf; omega⟩
        exact ih ds (fun x hx => ha x (by simp [hx])) (fun x hx => hb x (by simp [hx])) g (by simp at hf ⊢; omega)
      · exact ⟨_, rfl, rfl⟩

/-- C13, plain comparison on bytes: on well-formed UTF-8 the byte-indexed loop of `gp_str_compare` (no fold, no
collation), which decodes at the same byte position of both operands and ends on the byte lengths, orders the
strings exactly as their code point sequences are ordered. -/
theorem plain_compare_is_codepoint_order (s1 s2 : List UInt8) (h1 : Gpc.Utf8.WellFormed s1) (h2 : Gpc.Utf8.WellFormed s2) :
    ∃ a b r, s1 = encAll a ∧ s2 = encAll b ∧ cmpBytes s1 s2 (a.length + 1) = some r ∧
      sgn r = compare false false false .n a b := by
  obtain ⟨a, ha, e1⟩ := Gpc.Utf.wellFormed_is_encoding s1 h1
  obtain ⟨b, hb, e2⟩ := Gpc.Utf.wellFormed_is_encoding s2 h2
  have ha' : ∀ c ∈ a, c < 0x110000 := fun c hc => (ha c hc).1
  have hb' : ∀ c ∈ b, c < 0x110000 := fun c hc => (hb c hc).1
  obtain ⟨r, hr, hs⟩ := cmpBytes_encoding a b ha' hb' (a.length + 1) (by omega)
  exact ⟨a, b, r, e1, e2, by rw [e1, e2]; exact hr, hs⟩

example : compare false false false .n [0x61, 0x62] [0x61, 0x63] = -1 ∧ compare false false true .n [0x61, 0x62] [0x61, 0x63] = 1 := by decide
-- "STRASSE" and "straße" have equal full foldings; "a\0b" and "a\0c" do not
example : compare true false false .n [0x53, 0x54, 0x52, 0x41, 0x53, 0x53, 0x45] [0x73, 0x74, 0x72, 0x61, 0xDF, 0x65] = 0 := by decide +kernel
example : compare true false false .n [0x61, 0, 0x62] [0x61, 0, 0x63] = -1 := by decide +kernel
-- Turkic folding: I folds to dotless i under tr only
example : compare true false false .tr [0x49] [0x131] = 0 ∧ compare true false false .n [0x49] [0x131] ≠ 0 := by decide +kernel
example : sort true false false .n [[0x62], [0x41], [0x61], [0x42]] = [[0x41], [0x61], [0x62], [0x42]] := by decide +kernel

end Gpc.Compare
