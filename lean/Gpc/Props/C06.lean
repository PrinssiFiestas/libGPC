import Gpc.Proofs.Utf8
/-!
# C06 — UTF-8/ASCII validation is exact; repair yields valid text, keeps valid parts

`WellFormed` is the Unicode Standard's Table 3-7; the model (`Gpc.Utf8`) is the library's lead-byte table,
packed-word validator, scanners and repair loops.
-/
namespace Gpc.Utf8

theorem findInvalid_row {c : Bytes} (hc : Row c) (r : Bytes) (f i : Nat) :
    findInvalid (f + 1) (c ++ r) i = findInvalid f r (i + c.length) := by
  have hv := (validAtHead_eq_some (c ++ r) c.length).2 ⟨c, r, hc, rfl, rfl⟩
  rcases c with _ | ⟨b, c⟩
  · cases hc
  · rw [List.cons_append] at hv ⊢
    simp only [findInvalid, hv]
    rw [← List.cons_append, List.drop_left']; rfl

theorem findInvalid_spec (fuel : Nat) (s : Bytes) (i : Nat) (hf : s.length ≤ fuel) :
    ∃ pre post, s = pre ++ post ∧ WellFormed pre ∧ wfLen post = 0 ∧
      findInvalid fuel s i = if post = [] then none else some (i + pre.length) := by
  induction fuel generalizing s i with
  | zero => exact ⟨[], [], by simpa using hf, .nil, rfl, rfl⟩
  | succ f ih =>
    rcases wfLen_cases s with h0 | ⟨c, r, hc, rfl, _⟩
    · refine ⟨[], s, rfl, .nil, h0, ?_⟩
      rcases s with _ | ⟨b, t⟩
      · rfl
      · simp only [findInvalid, validAtHead_eq, if_pos h0, reduceCtorEq, if_false, List.length_nil, Nat.add_zero]
    · have := hc.length_bounds
      obtain ⟨pre, post, rfl, hpre, hpost, hr⟩ := ih r (i + c.length) (by rw [List.length_append] at hf; omega)
      refine ⟨c ++ pre, post, (List.append_assoc ..).symm, hc.wellFormed_append hpre, hpost, ?_⟩
      rw [findInvalid_row hc, hr, List.length_append, Nat.add_assoc]

theorem findInvalid_wellFormed {s : Bytes} (h : WellFormed s) :
    ∀ fuel i, s.length ≤ fuel → findInvalid fuel s i = none := by
  induction h using WellFormed.induction_row with
  | nil => intro fuel i _; cases fuel <;> rfl
  | cons c r hr _ ih =>
    intro fuel i hf
    have := hr.length_bounds
    rw [List.length_append] at hf
    obtain ⟨f, rfl⟩ : ∃ f, fuel = f + 1 := ⟨fuel - 1, by omega⟩
    rw [findInvalid_row hr]
    exact ih f _ (by omega)

theorem isValidUtf8_spec (s : Bytes) :
    ∃ pre post, s = pre ++ post ∧ WellFormed pre ∧ wfLen post = 0 ∧
      isValidUtf8 s = if post = [] then none else some pre.length := by
  simpa only [Nat.zero_add, isValidUtf8] using findInvalid_spec s.length s 0 (Nat.le_refl _)

/-- valid ⇔ well-formed per Unicode Table 3-7 (no overlongs, no surrogates, nothing above
U+10FFFF, no truncated sequences) -/
theorem isValid_iff_wellFormed (s : Bytes) : isValidUtf8 s = none ↔ WellFormed s := by
  refine ⟨fun h => ?_, fun h => findInvalid_wellFormed h _ _ (Nat.le_refl _)⟩
  obtain ⟨pre, post, rfl, hpre, _, hr⟩ := isValidUtf8_spec s
  rw [h] at hr
  split at hr
  · rename_i hp; rwa [hp, List.append_nil]
  · cases hr

/-- the reported index: everything before it is well formed and no Table 3-7 sequence starts at it -/
theorem invalid_index (s : Bytes) (k : Nat) (h : isValidUtf8 s = some k) :
    ∃ pre post, s = pre ++ post ∧ k = pre.length ∧ WellFormed pre ∧ post ≠ [] ∧ wfLen post = 0 := by
  obtain ⟨pre, post, e, hpre, hpost, hr⟩ := isValidUtf8_spec s
  rw [h] at hr
  split at hr
  · cases hr
  · exact ⟨pre, post, e, Option.some.inj hr, hpre, ‹_›, hpost⟩

theorem findIdx?_high_split (s : Bytes) {j : Nat} (hj : j ≤ s.length) :
    s.findIdx? high =
      ((window s 0 j).findIdx? high).or (((window s j s.length).findIdx? high).map (· + j)) := by
  conv => lhs; rw [← window_all s, window_append s (Nat.zero_le j) hj, List.findIdx?_append, window_length s hj]
  rfl

/-- `gp_bytes_is_valid`: for every length and address alignment the result is the first byte ≥ 0x80
(`some none` = valid); the outer `some` says no read left the string -/
theorem ascii_spec (s : Bytes) (a : Nat) : asciiValid s a = some (s.findIdx? high) := by
  unfold asciiValid
  simp only []
  generalize hA : min (a % 8) s.length = ao
  have hao : ao ≤ s.length := by omega
  rw [byteScan_spec s _ 0 ao hao (by omega)]
  cases h : (window s 0 ao).findIdx? high with
  | some k => rw [findIdx?_high_split s hao, h]; rfl
  | none =>
    -- the block loop runs to the last whole block after `ao`
    rw [show s.length - (s.length - ao) % 8 = ao + 8 * ((s.length - ao) / 8) by omega]
    obtain ⟨j, hj, ja, jb, jc⟩ := blockScan_spec s s.length ao ((s.length - ao) / 8) (by omega) (by omega)
    have hjn : j ≤ s.length := by omega
    have hpre : (window s 0 j).findIdx? high = none := by
      rw [window_append s (Nat.zero_le ao) ja, List.findIdx?_append, h, jc]; rfl
    simp only [Option.map_none, hj]
    rw [byteScan_spec s _ j s.length (Nat.le_refl _) (by omega), findIdx?_high_split s hjn, hpre, Option.none_or]

/-- accepts exactly the strings whose bytes are all below 0x80 -/
theorem ascii_valid_iff (s : Bytes) (a : Nat) :
    asciiValid s a = some none ↔ ∀ b ∈ s, high b = false := by
  rw [ascii_spec, Option.some.injEq, List.findIdx?_eq_none_iff]

theorem ascii_reads_in_bounds (s : Bytes) (a : Nat) : asciiValid s a ≠ none := by
  rw [ascii_spec]; exact Option.some_ne_none _

/-- `gp_bytes_codepoint_count` = number of non-continuation bytes, at every length and alignment -/
theorem count_eq_noncontinuation (s : Bytes) (a : Nat) :
    codepointCount s a = some (sumLN s) := by
  unfold codepointCount
  simp only []
  split
  · rw [countBytes_spec s s.length 0 s.length 0 (Nat.le_refl _) (by omega), window_all, Nat.zero_add]
  · -- the block loop runs over the `q` whole blocks after the aligned offset `ao`
    obtain ⟨ao, q, hao, hq, hle⟩ : ∃ ao q, a % 8 = ao ∧ s.length - (s.length - ao) % 8 = ao + 8 * q ∧
        ao + 8 * q ≤ s.length := ⟨_, (s.length - a % 8) / 8, rfl, by omega, by omega⟩
    rw [hao, hq, Nat.min_eq_left (by omega), countBytes_spec s s.length 0 ao 0 (by omega) (by omega)]
    simp only []
    rw [countBlocks_spec s s.length ao q _ hle (by omega)]
    simp only []
    -- prologue, blocks and tail are three adjacent windows
    rw [countBytes_spec s s.length _ s.length _ (Nat.le_refl _) (by omega), Nat.zero_add, ← sumLN_append,
      ← window_append s (Nat.zero_le _) (Nat.le_add_right _ _), ← sumLN_append, ← window_append s (Nat.zero_le _) hle,
      window_all]

/-- `sumLN` counts exactly the bytes outside 0x80..0xBF -/
theorem sumLN_eq_countP (s : Bytes) :
    sumLN s = s.countP (fun b => !(decide (0x80 ≤ b.toNat ∧ b.toNat ≤ 0xBF))) := by
  have h := sumLN_add_countP s
  rw [List.length_eq_countP_add_countP (fun b => !(decide (0x80 ≤ b.toNat ∧ b.toNat ≤ 0xBF)))] at h
  have : s.countP (fun b => leadNibble b == 0)
      = s.countP (fun a => decide ¬ (!(decide (0x80 ≤ a.toNat ∧ a.toNat ≤ 0xBF))) = true) :=
    List.countP_congr fun b _ => by simp [leadNibble_zero_iff]
  omega

theorem WellFormed.append {a b : Bytes} (ha : WellFormed a) (hb : WellFormed b) : WellFormed (a ++ b) := by
  induction ha with
  | nil => exact hb
  | cons c rest hc hl _ ih => rw [List.append_assoc]; exact WellFormed.cons c _ hc hl ih

/-- copy phase: the pending bytes `pre` are copied verbatim -/
theorem repairSpec_copy (repl pre rest : Bytes) : repairSpec repl pre.length (pre ++ rest) = pre ++ repairSpec repl 0 rest := by
  induction pre with
  | nil => rfl
  | cons b t ih => exact congrArg (b :: ·) ih

theorem repairSpec_row (repl : Bytes) {c : Bytes} (hc : Row c) (r : Bytes) :
    repairSpec repl 0 (c ++ r) = c ++ repairSpec repl 0 r := by
  have hw := hc.wfLen_append r
  rcases c with _ | ⟨b, c⟩
  · cases hc
  · rw [List.cons_append] at hw ⊢
    simp only [repairSpec, hw, List.length_cons, Nat.add_sub_cancel, Nat.succ_ne_zero, if_false, repairSpec_copy]
    rfl

theorem repairSpec_bad (repl : Bytes) (b : UInt8) (t : Bytes) (h : wfLen (b :: t) = 0) :
    repairSpec repl 0 (b :: t) = repl ++ repairSpec repl 0 t := by
  simp only [repairSpec, h, if_true]

theorem repairSpec_wellFormed_prefix (repl pre rest : Bytes) (h : WellFormed pre) :
    repairSpec repl 0 (pre ++ rest) = pre ++ repairSpec repl 0 rest := by
  induction h using WellFormed.induction_row with
  | nil => rfl
  | cons c r hc _ ih => rw [List.append_assoc, repairSpec_row repl hc, ih, List.append_assoc]

theorem findValid_spec (repl tail : Bytes) :
    repairSpec repl 0 tail =
      (List.replicate (findValid tail) repl).flatten ++ repairSpec repl 0 (tail.drop (findValid tail)) := by
  induction tail with
  | nil => rfl
  | cons b t ih =>
    simp only [findValid, validAtHead_eq]
    by_cases h0 : wfLen (b :: t) = 0
    · rw [if_pos h0, repairSpec_bad repl b t h0, ih]
      simp only [Nat.add_comm 1, List.replicate_succ, List.flatten_cons, List.drop_succ_cons, List.append_assoc]
    · rw [if_neg h0]; rfl

theorem toValid_eq_spec (repl : Bytes) (fuel : Nat) (s : Bytes) (hf : s.length < fuel) :
    toValid repl fuel s = repairSpec repl 0 s := by
  induction fuel generalizing s with
  | zero => omega
  | succ f ih =>
    obtain ⟨pre, post, rfl, hpre, h0, hr⟩ := isValidUtf8_spec s
    rw [isValidUtf8] at hr
    simp only [toValid, hr]
    rw [repairSpec_wellFormed_prefix repl pre post hpre]
    rcases post with _ | ⟨b, t⟩
    · simp [repairSpec]
    · -- an ill-formed byte at `pre.length`: at least that byte is replaced, so the rest is shorter
      have hk : 1 ≤ findValid (b :: t) := by simp only [findValid, validAtHead_eq, h0, if_true]; omega
      simp only [reduceCtorEq, if_false, List.take_left', List.drop_left']
      rw [findValid_spec repl (b :: t), List.append_assoc, ih]
      simp only [List.length_drop, List.length_append, List.length_cons] at hf ⊢
      omega

/-- `gp_str_to_valid` = greedy repair: every byte that does not start / belong to a well-formed
sequence is replaced, well-formed sequences stay in place and in order -/
theorem repair_eq_spec (s repl : Bytes) : strToValid s repl = repairSpec repl 0 s :=
  toValid_eq_spec repl _ s (by omega)

theorem repairSpec_wellFormed (repl : Bytes) (hr : WellFormed repl) (n : Nat) (s : Bytes) (hn : s.length ≤ n) :
    WellFormed (repairSpec repl 0 s) := by
  induction n generalizing s with
  | zero => obtain rfl := List.eq_nil_of_length_eq_zero (Nat.le_zero.1 hn); exact .nil
  | succ m ih =>
    rcases wfLen_cases s with h0 | ⟨c, r, hc, rfl, _⟩
    · rcases s with _ | ⟨b, t⟩
      · exact .nil
      · rw [repairSpec_bad repl b t h0]
        exact hr.append (ih t (by simpa using hn))
    · have := hc.length_bounds
      rw [repairSpec_row repl hc]
      exact hc.wellFormed_append (ih r (by rw [List.length_append] at hn; omega))

/-- the result is valid whenever the replacement is -/
theorem repair_valid (s repl : Bytes) (hr : WellFormed repl) : WellFormed (strToValid s repl) := by
  rw [repair_eq_spec]; exact repairSpec_wellFormed repl hr s.length s (Nat.le_refl _)

/-- valid input is returned unchanged -/
theorem repair_id_of_valid (s repl : Bytes) (hs : WellFormed s) : strToValid s repl = s := by
  rw [repair_eq_spec]
  have := repairSpec_wellFormed_prefix repl s [] hs
  simpa [repairSpec] using this

/-- a well-formed stretch after a well-formed prefix is kept in place and in order, whatever follows it -/
theorem repair_keeps_wellformed (pre mid post repl : Bytes) (hp : WellFormed pre) (hm : WellFormed mid) :
    strToValid (pre ++ mid ++ post) repl = pre ++ mid ++ strToValid post repl := by
  rw [repair_eq_spec, repair_eq_spec, repairSpec_wellFormed_prefix _ _ _ (hp.append hm)]

/-- the regression witness of the end-of-string test: a complete multi-byte code point as
the very last bytes is kept -/
example : strToValid [0xFF, 0xC3, 0xA4] [0x3F] = [0x3F, 0xC3, 0xA4] := by decide
example : isValidUtf8 [0xE2, 0x82] = some 0 ∧ isValidUtf8 [0xED, 0xA0, 0x80] = some 0
    ∧ isValidUtf8 [0x61, 0xF4, 0x90, 0x80, 0x80] = some 1 ∧ isValidUtf8 [0xF0, 0x9F, 0x98, 0x80] = none := by decide

end Gpc.Utf8
