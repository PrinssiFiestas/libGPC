import Gpc.Proofs.Printf
import Gpc.Proofs.Print
/-!
# C10 — bounded formatting never writes past its limit and reports the full length

`PF.*` model the helpers of src/pfstring.h, src/printf.c and src/conversions.c with checked writes: an
operation answers `none` exactly when it would write outside the destination.
-/
namespace Gpc.Printf
open Gpc.PF (PF Agrees)

/-- C10, helpers: every helper of the bounded string writes inside the destination (it never answers `none`),
keeps the capacity and leaves a prefix of the unbounded result, for every length, capacity and argument. -/
theorem helpers_in_bounds (p : PF) (full : Bytes) (h : Agrees p full) :
    (∀ src, ∃ p', PF.concat p src = some p' ∧ p'.cap = p.cap ∧ Agrees p' (full ++ src)) ∧
    (∀ c n, ∃ p', PF.pad p c n = some p' ∧ p'.cap = p.cap ∧ Agrees p' (full ++ List.replicate n c)) ∧
    (∀ c, ∃ p', PF.push p c = some p' ∧ p'.cap = p.cap ∧ Agrees p' (full ++ [c])) ∧
    (∀ i c n, i ≤ full.length → ∃ p', PF.insertPad p i c n = some p' ∧ p'.cap = p.cap ∧
      Agrees p' (full.take i ++ List.replicate n c ++ full.drop i)) ∧
    (∀ base upper prec x, ∃ p', PF.writeUInt p base upper prec x = some p' ∧ p'.cap = p.cap ∧
      Agrees p' (full ++ List.replicate (PF.zeroFill prec (PF.digits base upper x).length) 48 ++ PF.digits base upper x)) ∧
    (∀ prec x, ∃ p', PF.writeOctAlt p prec x = some p' ∧ p'.cap = p.cap ∧
      Agrees p' (full ++ [48] ++ List.replicate (PF.zeroFill prec (1 + (PF.digits 8 false x).length)) 48 ++ PF.digits 8 false x)) :=
  ⟨fun src => PF.concat_ok src p full h, fun c n => PF.pad_ok c n p full h, fun c => PF.push_ok c p full h,
   fun i c n hi => by
     have := (show Agrees p (full.take i ++ full.drop i) by rwa [List.take_append_drop]).insertPad c n
     rwa [List.length_take, Nat.min_eq_left hi] at this,
   fun base upper prec x => by simpa only [List.append_assoc] using PF.writeUInt_ok base upper prec x p full h,
   fun prec x => by simpa only [List.append_assoc] using PF.writeOctAlt_ok prec x p full h⟩

/-- C10, floating point: whatever digits the converter found, that is for every plan of output steps
(`pf_push_char`, `pf_pad`, `pf_concat`, `pf_append_utoa / _nine_digits / _c_digits / _d_digits`), writing them
into the room that is left stays inside the destination and leaves a prefix of the unbounded text. -/
theorem float_emit_in_bounds (p : PF) (full : Bytes) (plan : List PF.Emit) (h : Agrees p full) :
    ∃ p', PF.writeFloat p plan = some p' ∧ p'.cap = p.cap ∧ Agrees p' (full ++ PF.planText plan) :=
  PF.writeFloat_ok plan p full h

/-- C10, `pf_snprintf`: for every format and argument list whose text `out` is defined and every limit `n`
(0 included), no write leaves the `n` bytes, the value returned is `|out|` and the bytes written are the first
`min(|out|, n)` of `out`; the terminator, written only when it fits, does not change them. -/
theorem bounded_prefix (fmt : Bytes) (args : List Arg) (out dest : Bytes)
    (hg : genFormat (convText floatModelText) (fmt.length + 1) fmt args = some out) :
    ∃ p, vsnprintf (fmt.length + 1) { data := dest, length := 0 } fmt args = some (some p) ∧
      p.data.length = dest.length ∧ p.length = out.length ∧
      p.data.take (min out.length dest.length) = out.take dest.length ∧
      ∃ p', finish p = some p' ∧ p'.length = out.length ∧ p'.data.length = dest.length ∧
        p'.data.take (min out.length dest.length) = out.take dest.length := by
  obtain ⟨p, e, c, a⟩ := vsnprintf_ok (fmt.length + 1) _ [] out fmt args (Agrees.nil dest) hg
  rw [List.nil_append] at a
  obtain ⟨p', e', c', a'⟩ := PF.terminate_ok p out a
  rw [List.append_nil] at a'
  have hc : p.cap = dest.length := c
  have hc' : p'.cap = dest.length := c'.trans c
  exact ⟨p, e, hc, a.1, hc ▸ a.take, p', by rw [finish_eq]; exact e', a'.1, hc', hc' ▸ a'.take⟩

/-- C10, bounded print (`gp_bytes_print`, and `gp_str_n_print` whose storage holds at least `n` bytes): for every
list of objects with a defined text `t` (typed values, embedded format strings with their arguments) and every
limit `n`, no write leaves the `n` bytes, the value returned is `|t|` and the bytes written are the first `min(|t|, n)` of `t`. -/
theorem bounded_print (objs : List Obj) (t dest : Bytes)
    (ht : printModelText (objs.length + 1) objs = some t) :
    ∃ p, printObjs (objs.length + 1) { data := dest, length := 0 } objs false = some (some p) ∧
      p.data.length = dest.length ∧ p.length = t.length ∧
      p.data.take (min t.length dest.length) = t.take dest.length := by
  obtain ⟨p, _, e, c, a, ht', -⟩ := printObjs_run (objs.length + 1) false _ [] t objs (Agrees.nil dest) ht
  rw [List.nil_append, ht' rfl] at a
  have hc : p.cap = dest.length := c
  exact ⟨p, e, hc, a.1, hc ▸ a.take⟩

/-- C10, bounded println: for every non-empty list of objects and every limit, the objects, the separating
spaces and the final newline are all written inside the destination. -/
theorem bounded_println_in_bounds (objs : List Obj) (t dest : Bytes) (hne : objs ≠ [])
    (ht : printModelText (objs.length + 1) objs = some t) :
    ∃ p p', printObjs (objs.length + 1) { data := dest, length := 0 } objs true = some (some p) ∧
      printlnEnd p = some p' ∧ p'.data.length = dest.length := by
  obtain ⟨p, _, e, c, _, _, z⟩ := printObjs_run (objs.length + 1) true _ [] t objs (Agrees.nil dest) ht
  obtain ⟨p', e', c', _⟩ := printlnEnd_ok p (z rfl hne)
  exact ⟨p, p', e, e', by have := c'.trans c; simpa [PF.cap] using this⟩

/-- `gp_str_print` reserves at least the room a value's text needs (`gp_max_digits_in`): integers of int and
long long width, characters, booleans, strings, pointers; the `%g` bound of 15 bytes is left to the correspondence run -/
theorem estimate_suffices (k : Kind) (v : Arg) (t : Bytes) (ht : valText k v = some t) (hk : k ≠ .dbl) :
    t.length ≤ valEstimate k v := by
  have sgn : ∀ (len : LenMod) (raw n : Nat), 1 ≤ n → 2 ^ (len.bits - 1) < 10 ^ n →
      (fmtSigned { conv := 'd', len := len } raw).length ≤ n + 1 :=
    fun len raw n h1 hlt => by
      have := natDigits_length_le 10 false (by omega) n _ h1 (Nat.lt_of_le_of_lt (signedArg_abs_le len raw) hlt)
      rw [fmtSigned_plain, List.length_append]
      split
      · rw [List.length_singleton]; omega
      · rw [List.length_nil]; omega
  have uns : ∀ (raw b base n : Nat), 2 ≤ base → 1 ≤ n → 2 ^ b ≤ base ^ n →
      (natDigits base false (raw % 2 ^ b)).length ≤ n := fun raw b base n hb h1 hle =>
    natDigits_length_le base false hb n _ h1 (Nat.lt_of_lt_of_le (Nat.mod_lt _ (Nat.pow_pos (by omega))) hle)
  cases k <;> cases v <;> simp only [valText] at ht <;> (try (cases ht)) <;> simp only [valEstimate]
  · -- chr
    exact Nat.le_refl 1
  · -- u32: 10 digits
    exact Nat.le_trans (uns _ 32 10 10 (by omega) (by omega) (by decide)) (by decide)
  · -- u64: 20 digits
    exact Nat.le_trans (uns _ 64 10 20 (by omega) (by omega) (by decide)) (by decide)
  · -- bool
    split <;> decide
  · -- i32: sign and 10 digits
    exact Nat.le_trans (sgn .none _ 10 (by omega) (by decide)) (by decide)
  · -- i64: sign and 19 digits
    exact Nat.le_trans (sgn .ll _ 19 (by omega) (by decide)) (by decide)
  · -- dbl
    exact absurd rfl hk
  · -- cstr
    exact Nat.le_refl _
  · -- gstr
    exact Nat.le_refl _
  · -- ptr: "0x" and 16 digits, or "(nil)"
    rename_i raw
    have := uns raw 64 16 16 (by omega) (by omega) (by decide)
    split
    · rw [List.length_append]; exact Nat.add_le_add (Nat.le_refl 2) this
    · decide

-- the hypothesis of `bounded_prefix` holds for an ordinary format: "[%05d|%-4s|%#x]" with 42, "ab", 255
example : genFormat (convText floatModelText) 17
    [91, 37, 48, 53, 100, 124, 37, 45, 52, 115, 124, 37, 35, 120, 93] [.int 42, .str [97, 98], .int 255] =
    some [91, 48, 48, 48, 52, 50, 124, 97, 98, 32, 32, 124, 48, 120, 102, 102, 93] := by
  decide +kernel

-- a bounded run of the model itself: "%5d" of 42 into 3 bytes writes "   " and reports 5
example : (vsnprintf 4 { data := [170, 170, 170], length := 0 } [37, 53, 100] [.int 42]).map (·.map fun p => (p.data, p.length)) =
    some (some ([32, 32, 32], 5)) := by decide

end Gpc.Printf
