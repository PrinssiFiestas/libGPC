import Gpc.Model.TestFw
/-!
# C19 — the unit-test framework's verdict and tallies are faithful

Programs here are single-threaded (every operation tagged `false`); the two-thread behaviour is tied by the
correspondence run only.  The property-level functions (`marks`, `cut`, `testVerdicts`, `suiteVerdicts`, `tally`) read
a program or an output without the model's state.
-/
namespace Gpc.TestFw

/-- "some expectation fails while a test or suite is running, or some assertion fails", from a point where a test
(`hasT`) / suite (`hasS`) is running -/
def marks : List Op → (hasT hasS : Bool) → Bool
  | [], _, _ => false
  | .suite n :: r, _, _ => marks r false n.isSome
  | .test n :: r, _, hasS => marks r n.isSome hasS
  | .expect false :: r, hasT, hasS => (hasT || hasS) || marks r hasT hasS
  | .assert false :: _, _, _ => true
  | .endTesting :: r, _, _ => marks r false false
  | .expect true :: r, hasT, hasS => marks r hasT hasS
  | .assert true :: r, hasT, hasS => marks r hasT hasS

/-- the operations that are actually executed (the process may end early) -/
def trace : List Op → Local → Global → List Op
  | [], _, _ => []
  | op :: ops, l, g =>
    match (step l g op).2.2 with
    | some _ => [op]
    | none => op :: trace ops (step l g op).1 (step l g op).2.1

/-- the executed part of a program: up to and including the first failing assertion, or the first
`end_testing` reached while a failure is pending (`pend`) -/
def cut : List Op → (hasT hasS pend : Bool) → List Op
  | [], _, _, _ => []
  | .assert false :: _, _, _, _ => [.assert false]
  | .endTesting :: r, _, _, pend => if pend then [.endTesting] else .endTesting :: cut r false false false
  | .expect false :: r, hasT, hasS, pend => .expect false :: cut r hasT hasS (pend || hasT || hasS)
  | .suite n :: r, _, _, pend => .suite n :: cut r false n.isSome pend
  | .test n :: r, _, hasS, pend => .test n :: cut r n.isSome hasS pend
  | .expect true :: r, hasT, hasS, pend => .expect true :: cut r hasT hasS pend
  | .assert true :: r, hasT, hasS, pend => .assert true :: cut r hasT hasS pend

/-- bookkeeping invariant: a running test / suite has been counted and the exit handler is armed -/
structure Inv (l : Local) (g : Global) : Prop where
  t_counted : l.curTest.isSome → 0 < g.tests
  s_counted : l.curSuite.isSome → 0 < g.suites
  armed : (0 < g.tests ∨ 0 < g.suites ∨ g.testsFailed ≠ 0 ∨ g.suitesFailed ≠ 0) → g.armed = true
  tf_le : g.testsFailed ≠ 0 → 0 < g.tests
  sf_le : g.suitesFailed ≠ 0 → 0 < g.suites

def tag (ops : List Op) : List (Bool × Op) := ops.map fun o => (false, o)

/-- the PASSED / FAILED lines for tests in an output -/
def tvOf : List Ev → List (Nat × Bool)
  | [] => []
  | .testVerdict n p :: r => (n, p) :: tvOf r
  | _ :: r => tvOf r
def svOf : List Ev → List (Nat × Bool)
  | [] => []
  | .suiteVerdict n p :: r => (n, p) :: svOf r
  | _ :: r => svOf r

/-- reading an output left to right: tallies of verdict lines since the last clean summary
(tests, suites, failed tests, failed suites); `none` once a summary line disagreed with them -/
def tstep : Option (Nat × Nat × Nat × Nat) → Ev → Option (Nat × Nat × Nat × Nat)
  | none, _ => none
  | some (t, s, tf, sf), .testVerdict _ p => some (t + 1, s, tf + (if p then 0 else 1), sf)
  | some (t, s, tf, sf), .suiteVerdict _ p => some (t, s + 1, tf, sf + (if p then 0 else 1))
  | some (t, s, tf, sf), .summary a b c d =>
    if a = t ∧ b = s ∧ c = tf ∧ d = sf then
      (if c = 0 ∧ d = 0 then some (0, 0, 0, 0) else some (t, s, tf, sf))
    else none
  | some x, .suiteStart _ => some x
  | some x, .failMsg => some x

def tally (out : List Ev) : Option (Nat × Nat × Nat × Nat) := out.foldl tstep (some (0, 0, 0, 0))

/-- failed tests as `gp_end_testing` will count them: `gp_tests_failed`, and the running test if it is marked -/
def failedT (l : Local) (g : Global) : Nat := g.testsFailed + if l.curTest.isSome ∧ l.testFailed then 1 else 0
/-- the same for suites -/
def failedS (l : Local) (g : Global) : Nat := g.suitesFailed + if l.curSuite.isSome ∧ l.suiteFailed then 1 else 0
/-- a failure is pending: `gp_end_testing` will find a non-zero failure count -/
def pend (l : Local) (g : Global) : Bool := failedT l g != 0 || failedS l g != 0
theorem pend_eq_false {l : Local} {g : Global} : pend l g = false ↔ failedT l g = 0 ∧ failedS l g = 0 := by
  simp [pend]

/-- what `marks` and `cut` carry along -/
structure Ctl where
  hasT : Bool        -- a test is running
  hasS : Bool        -- a suite is running
  pend : Bool        -- a failure is pending

def ctl (l : Local) (g : Global) : Ctl := ⟨l.curTest.isSome, l.curSuite.isSome, pend l g⟩
/-- what `testVerdicts` / `suiteVerdicts` carry along: the running test (suite) and whether it is unmarked -/
def curT (l : Local) : Option (Nat × Bool) := l.curTest.map fun n => (n, !l.testFailed)
def curS (l : Local) : Option (Nat × Bool) := l.curSuite.map fun n => (n, !l.suiteFailed)
/-- the `[PASSED]` / `[FAILED]` line printed when the running test (suite) is closed, if one is running -/
def closeT (l : Local) : List Ev := (curT l).toList.map fun v => .testVerdict v.1 v.2
def closeS (l : Local) : List Ev := (curS l).toList.map fun v => .suiteVerdict v.1 v.2

@[simp] theorem tvOf_append (a b : List Ev) : tvOf (a ++ b) = tvOf a ++ tvOf b := by
  induction a with
  | nil => rfl
  | cons e a ih => cases e <;> simp [tvOf, ih]
@[simp] theorem svOf_append (a b : List Ev) : svOf (a ++ b) = svOf a ++ svOf b := by
  induction a with
  | nil => rfl
  | cons e a ih => cases e <;> simp [svOf, ih]
theorem tally_append (out evs : List Ev) : tally (out ++ evs) = evs.foldl tstep (tally out) := by
  simp [tally, List.foldl_append]

@[simp] theorem tvOf_closeT (l : Local) : tvOf (closeT l) = (curT l).toList := by
  unfold closeT; cases curT l <;> rfl
@[simp] theorem svOf_closeT (l : Local) : svOf (closeT l) = [] := by
  unfold closeT; cases curT l <;> rfl
@[simp] theorem tvOf_closeS (l : Local) : tvOf (closeS l) = [] := by
  unfold closeS; cases curS l <;> rfl
@[simp] theorem svOf_closeS (l : Local) : svOf (closeS l) = (curS l).toList := by
  unfold closeS; cases curS l <;> rfl

theorem tally_closeT (out : List Ev) (l : Local) {t s tf sf : Nat} (h : tally out = some (t, s, tf, sf)) :
    tally (out ++ closeT l) =
      some (t + (if l.curTest.isSome then 1 else 0), s,
        tf + (if l.curTest.isSome ∧ l.testFailed then 1 else 0), sf) := by
  rw [tally_append, h, closeT, curT]
  cases l.curTest <;> cases l.testFailed <;> rfl

theorem tally_closeS (out : List Ev) (l : Local) {t s tf sf : Nat} (h : tally out = some (t, s, tf, sf)) :
    tally (out ++ closeS l) =
      some (t, s + (if l.curSuite.isSome then 1 else 0), tf,
        sf + (if l.curSuite.isSome ∧ l.suiteFailed then 1 else 0)) := by
  rw [tally_append, h, closeS, curS]
  cases l.curSuite <;> cases l.suiteFailed <;> rfl

/-- `gp_test(name)` -/
theorem doTest_eq (l : Local) (g : Global) (n : Option Nat) : doTest l g n =
    ({ l with curTest := n, testFailed := !n.isSome && l.testFailed },
     { g with armed := true, tests := g.tests + (if n.isSome then 1 else 0),
              testsFailed := failedT l g, out := g.out ++ closeT l }) := by
  obtain ⟨ct, cs, tf, sf⟩ := l
  -- the branches of the code: a test is running or not, marked or not, `name` is given or NULL
  cases ct <;> cases tf <;> cases n <;> simp [doTest, endTest, startTest, closeT, curT, failedT]

/-- `gp_suite(name)` -/
theorem doSuite_eq (l : Local) (g : Global) (n : Option Nat) : doSuite l g n =
    ({ l with curTest := none, curSuite := n, suiteFailed := !n.isSome && l.suiteFailed },
     { g with armed := true, suites := g.suites + (if n.isSome then 1 else 0),
              testsFailed := failedT l g, suitesFailed := failedS l g,
              out := g.out ++ closeT l ++ closeS l ++ n.toList.map .suiteStart }) := by
  obtain ⟨ct, cs, tf, sf⟩ := l
  cases cs <;> cases sf <;> cases n <;>
    simp [doSuite, doTest_eq, endSuite, startSuite, closeS, curS, failedS, closeT, curT]

/-- `gp_end_testing()` once something was counted -/
theorem doEndTesting_eq (l : Local) (g : Global) (h0 : g.tests + g.suites ≠ 0) : doEndTesting l g =
    ({ l with curTest := none, curSuite := none },
     if pend l g then
       { g with armed := true, testsFailed := failedT l g, suitesFailed := failedS l g,
                out := g.out ++ closeT l ++ closeS l ++ [.summary g.tests g.suites (failedT l g) (failedS l g)] }
     else
       { armed := true,
         out := g.out ++ closeT l ++ closeS l ++ [.summary g.tests g.suites (failedT l g) (failedS l g)] },
     if pend l g then some 1 else none) := by
  simp only [doEndTesting, if_neg h0, doSuite_eq, pend, Bool.or_eq_true, bne_iff_ne]
  split <;> simp

theorem startSuite_armed (l : Local) (g : Global) (n) : (startSuite l g n).2.armed = g.armed := by
  unfold startSuite; split <;> rfl

theorem inv_init : Inv {} {} := ⟨by simp, by simp, by simp, by simp, by simp⟩

theorem Inv.failedT_pos {l : Local} {g : Global} (h : Inv l g) (hf : failedT l g ≠ 0) : 0 < g.tests := by
  unfold failedT at hf
  split at hf
  · rename_i hm; exact h.t_counted hm.1
  · exact h.tf_le hf

theorem Inv.failedS_pos {l : Local} {g : Global} (h : Inv l g) (hf : failedS l g ≠ 0) : 0 < g.suites := by
  unfold failedS at hf
  split at hf
  · rename_i hm; exact h.s_counted hm.1
  · exact h.sf_le hf

theorem Inv.unarmed {l : Local} {g : Global} (h : Inv l g) (ha : g.armed = false) : g.tests + g.suites = 0 :=
  Nat.eq_zero_of_not_pos fun hp => by simp [h.armed (by omega)] at ha

/-- while nothing is counted (in particular before the handler is armed) nothing runs or is pending -/
theorem Inv.idle {l : Local} {g : Global} (h : Inv l g) (h0 : g.tests + g.suites = 0) :
    l.curTest = none ∧ l.curSuite = none ∧ pend l g = false := by
  refine ⟨Option.not_isSome_iff_eq_none.1 fun hs => ?_, Option.not_isSome_iff_eq_none.1 fun hs => ?_, ?_⟩
  · have := h.t_counted hs; omega
  · have := h.s_counted hs; omega
  · have ht : failedT l g = 0 := Classical.byContradiction fun hf => by have := h.failedT_pos hf; omega
    have hs : failedS l g = 0 := Classical.byContradiction fun hf => by have := h.failedS_pos hf; omega
    exact pend_eq_false.2 ⟨ht, hs⟩

theorem doEndTesting_spec (l : Local) (g : Global) (h : Inv l g) :
    Inv (doEndTesting l g).1 (doEndTesting l g).2.1 ∧
    (doEndTesting l g).2.2 = (if pend l g then some 1 else none) ∧
    (pend l g = false → ctl (doEndTesting l g).1 (doEndTesting l g).2.1 = ⟨false, false, false⟩) := by
  by_cases h0 : g.tests + g.suites = 0
  · obtain ⟨c, s, p⟩ := h.idle h0
    simp [doEndTesting, h0, h, p, ctl, c, s]
  · rw [doEndTesting_eq l g h0]
    cases pend l g
    · exact ⟨⟨nofun, nofun, fun _ => rfl, nofun, nofun⟩, rfl, fun _ => rfl⟩
    · exact ⟨⟨nofun, nofun, fun _ => rfl, h.failedT_pos, h.failedS_pos⟩, rfl, nofun⟩

/-- under `Inv` the exit handler is `gp_end_testing()`: while it is not armed nothing has been counted, and
`gp_end_testing()` returns at once -/
theorem atExit_eq {l : Local} {g : Global} (h : Inv l g) (st : Nat) :
    atExit l g st = ((doEndTesting l g).2.1, (doEndTesting l g).2.2.getD st) := by
  unfold atExit
  split
  · rfl
  · rename_i ha
    simp [doEndTesting, h.unarmed (Bool.eq_false_iff.2 ha)]

theorem atExit_status (l : Local) (g : Global) (st : Nat) (h : Inv l g) :
    (atExit l g st).2 ≠ 0 ↔ st ≠ 0 ∨ pend l g = true := by
  rw [atExit_eq h, (doEndTesting_spec l g h).2.1]; cases pend l g <;> simp

/-- one operation on the control state; `none`: the process exits with a failure status -/
def ctlStep (c : Ctl) : Op → Option Ctl
  | .suite n => some { c with hasT := false, hasS := n.isSome }
  | .test n => some { c with hasT := n.isSome }
  | .expect false => some { c with pend := c.pend || c.hasT || c.hasS }
  | .assert false => none
  | .endTesting => if c.pend then none else some ⟨false, false, false⟩
  | .expect true => some c
  | .assert true => some c

def Ctl.marks (c : Ctl) (ops : List Op) : Bool := c.pend || TestFw.marks ops c.hasT c.hasS
def Ctl.cut (c : Ctl) (ops : List Op) : List Op := TestFw.cut ops c.hasT c.hasS c.pend

theorem step_ctl (l : Local) (g : Global) (op : Op) (h : Inv l g) :
    Inv (step l g op).1 (step l g op).2.1 ∧
    match ctlStep (ctl l g) op with
    | some a => (step l g op).2.2 = none ∧ ctl (step l g op).1 (step l g op).2.1 = a
    | none => (step l g op).2.2 = some 1 := by
  -- `doFail` changes no counter and not whether a test / suite is running, and `Inv` reads nothing else
  have hfail : Inv (doFail l g).1 (doFail l g).2 := ⟨h.1, h.2, h.3, h.4, h.5⟩
  cases op with
  | suite n =>
    rw [step, doSuite_eq]
    refine ⟨⟨nofun, ?_, fun _ => rfl, h.failedT_pos, fun hf => Nat.lt_add_right _ (h.failedS_pos hf)⟩, rfl, ?_⟩
    · cases n <;> simp
    · cases n <;> simp [ctl, pend, failedT, failedS]
  | test n =>
    rw [step, doTest_eq]
    refine ⟨⟨?_, h.s_counted, fun _ => rfl, fun hf => Nat.lt_add_right _ (h.failedT_pos hf), h.sf_le⟩, rfl, ?_⟩
    · cases n <;> simp
    · cases n <;> simp [ctl, pend, failedT, failedS]
  | expect ok =>
    cases ok with
    | true => exact ⟨h, rfl, rfl⟩
    | false =>
      refine ⟨hfail, rfl, ?_⟩
      obtain ⟨ct, cs, tf, sf⟩ := l
      cases ct <;> cases cs <;> simp [step, ctl, pend, failedT, failedS, doFail]
  | assert ok =>
    cases ok with
    | true => exact ⟨h, rfl, rfl⟩
    | false => exact ⟨hfail, rfl⟩
  | endTesting =>
    obtain ⟨i, e, c⟩ := doEndTesting_spec l g h
    refine ⟨i, ?_⟩
    cases hp : pend l g
    · simp [step, ctlStep, ctl, e, hp, ← c hp]
    · simp [step, ctlStep, ctl, e, hp]

theorem marks_cons (c : Ctl) (op : Op) (r : List Op) :
    c.marks (op :: r) =
      match ctlStep c op with
      | some c' => c'.marks r
      | none => true := by
  obtain ⟨t, s, p⟩ := c
  rcases op with _ | _ | (_ | _) | (_ | _) | _ <;> cases p <;> simp [Ctl.marks, marks, ctlStep]

theorem run_cons_main (op : Op) (ops : List (Bool × Op)) (l l1 : Local) (g : Global) :
    run ((false, op) :: ops) l l1 g =
      match (step l g op).2.2 with
      | some st => atExit (step l g op).1 (step l g op).2.1 st
      | none => run ops (step l g op).1 l1 (step l g op).2.1 := by
  rw [run]; simp only [Bool.false_eq_true, if_false]
  cases (step l g op).2.2 <;> rfl

theorem run_cons (op : Op) (ops : List Op) (l l1 : Local) (g : Global) :
    run (tag (op :: ops)) l l1 g =
      match (step l g op).2.2 with
      | some st => atExit (step l g op).1 (step l g op).2.1 st
      | none => run (tag ops) (step l g op).1 l1 (step l g op).2.1 :=
  run_cons_main op (tag ops) l l1 g

/-- from any consistent state: a failure is already pending or one is marked by the remaining operations -/
theorem exit_failure_iff_gen (ops : List Op) : ∀ (l l1 : Local) (g : Global), Inv l g →
    ((run (tag ops) l l1 g).2 ≠ 0 ↔ (ctl l g).marks ops = true) := by
  induction ops with
  | nil =>
    intro l l1 g h
    show (atExit l g 0).2 ≠ 0 ↔ _
    simpa [Ctl.marks, marks, ctl] using atExit_status l g 0 h
  | cons op ops ih =>
    intro l l1 g h
    obtain ⟨i, hs⟩ := step_ctl l g op h
    rw [run_cons, marks_cons]
    cases ha : ctlStep (ctl l g) op with
    | none => rw [ha] at hs; simp [hs, atExit_status _ _ 1 i]
    | some a => rw [ha] at hs; obtain ⟨e, rfl⟩ := hs; rw [e]; exact ih _ _ _ i

/-- C19 (exit status): a single-threaded test program ends with a failure status iff some expectation failed while a
test or suite was running or some assertion failed. -/
theorem exit_failure_iff (ops : List Op) :
    (runProgram (tag ops)).2 ≠ 0 ↔ marks ops false false = true :=
  exit_failure_iff_gen ops {} {} {} inv_init

/-- a failing assertion ends the process at once: nothing after it is executed -/
theorem assert_false_ends (pre post post' : List Op) : ∀ (l l1 : Local) (g : Global),
    run (tag (pre ++ .assert false :: post)) l l1 g = run (tag (pre ++ .assert false :: post')) l l1 g := by
  induction pre with
  | nil => intro l l1 g; simp only [List.nil_append, run_cons]; rfl
  | cons op pre ih =>
    intro l l1 g
    simp only [List.cons_append, run_cons]
    cases (step l g op).2.2 with
    | some st => rfl
    | none => exact ih _ _ _

/-- and the status is then a failure -/
theorem assert_false_fails (pre post : List Op) :
    (runProgram (tag (pre ++ .assert false :: post))).2 ≠ 0 := by
  rw [exit_failure_iff]
  suffices h : ∀ c : Ctl, c.marks (pre ++ .assert false :: post) = true from h ⟨false, false, false⟩
  induction pre with
  | nil => intro c; rw [List.nil_append, marks_cons]; rfl
  | cons op pre ih =>
    intro c
    rw [List.cons_append, marks_cons]
    cases ctlStep c op with
    | none => rfl
    | some c' => exact ih c'

theorem cut_cons (c : Ctl) (op : Op) (r : List Op) :
    c.cut (op :: r) =
      op :: match ctlStep c op with
      | some c' => c'.cut r
      | none => [] := by
  obtain ⟨t, s, p⟩ := c
  rcases op with _ | _ | (_ | _) | (_ | _) | _ <;> cases p <;> simp [Ctl.cut, cut, ctlStep]

theorem trace_eq_cut (ops : List Op) : ∀ (l : Local) (g : Global), Inv l g → trace ops l g = (ctl l g).cut ops := by
  induction ops with
  | nil => intros; rfl
  | cons op ops ih =>
    intro l g h
    obtain ⟨i, hs⟩ := step_ctl l g op h
    rw [trace, cut_cons]
    cases ha : ctlStep (ctl l g) op with
    | none => rw [ha] at hs; rw [hs]
    | some a => rw [ha] at hs; obtain ⟨e, rfl⟩ := hs; rw [e]; exact congrArg _ (ih _ _ i)

/-- the executed prefix of a program, stated without reference to the model's state -/
theorem trace_init (ops : List Op) : trace ops {} {} = cut ops false false false :=
  trace_eq_cut ops {} {} inv_init

/-- each started test with its verdict (`true` = passed), in order of starting; `cur` is the running test and whether
it is unmarked so far; a test is closed by the next test / suite / end_testing or by the end of the process -/
def testVerdicts : List Op → Option (Nat × Bool) → List (Nat × Bool)
  | [], cur => cur.toList
  | .test n :: r, cur => cur.toList ++ testVerdicts r (n.map fun n => (n, true))
  | .suite _ :: r, cur => cur.toList ++ testVerdicts r none
  | .endTesting :: r, cur => cur.toList ++ testVerdicts r none
  | .expect false :: r, cur => testVerdicts r (cur.map fun c => (c.1, false))
  | .assert false :: r, cur => testVerdicts r (cur.map fun c => (c.1, false))
  | .expect true :: r, cur => testVerdicts r cur
  | .assert true :: r, cur => testVerdicts r cur

/-- same for suites: closed by the next suite / end_testing / end of process -/
def suiteVerdicts : List Op → Option (Nat × Bool) → List (Nat × Bool)
  | [], cur => cur.toList
  | .suite n :: r, cur => cur.toList ++ suiteVerdicts r (n.map fun n => (n, true))
  | .endTesting :: r, cur => cur.toList ++ suiteVerdicts r none
  | .expect false :: r, cur => suiteVerdicts r (cur.map fun c => (c.1, false))
  | .assert false :: r, cur => suiteVerdicts r (cur.map fun c => (c.1, false))
  | .test _ :: r, cur => suiteVerdicts r cur
  | .expect true :: r, cur => suiteVerdicts r cur
  | .assert true :: r, cur => suiteVerdicts r cur

theorem doFail_cur (l : Local) (g : Global) :
    curT (doFail l g).1 = (curT l).map (fun c => (c.1, false)) ∧
    curS (doFail l g).1 = (curS l).map (fun c => (c.1, false)) := by
  unfold doFail curT curS
  cases l.curTest <;> cases l.curSuite <;> simp

theorem doEndTesting_out (l : Local) (g : Global) (h : Inv l g) :
    tvOf (doEndTesting l g).2.1.out = tvOf g.out ++ (curT l).toList ∧
    svOf (doEndTesting l g).2.1.out = svOf g.out ++ (curS l).toList ∧
    curT (doEndTesting l g).1 = none ∧ curS (doEndTesting l g).1 = none := by
  by_cases h0 : g.tests + g.suites = 0
  · obtain ⟨c, s, _⟩ := h.idle h0
    simp [doEndTesting, h0, curT, curS, c, s]
  · rw [doEndTesting_eq l g h0]
    split <;> simp [tvOf, svOf, curT, curS]

theorem atExit_out (l : Local) (g : Global) (st : Nat) (h : Inv l g) :
    tvOf (atExit l g st).1.out = tvOf g.out ++ (curT l).toList ∧
    svOf (atExit l g st).1.out = svOf g.out ++ (curS l).toList := by
  rw [atExit_eq h]; exact ⟨(doEndTesting_out l g h).1, (doEndTesting_out l g h).2.1⟩

/-- what one operation adds to the verdict lines, counting the running test / suite as closed -/
theorem step_out (l : Local) (g : Global) (op : Op) (h : Inv l g) (rest : List Op) :
    tvOf (step l g op).2.1.out ++ testVerdicts rest (curT (step l g op).1) =
      tvOf g.out ++ testVerdicts (op :: rest) (curT l) ∧
    svOf (step l g op).2.1.out ++ suiteVerdicts rest (curS (step l g op).1) =
      svOf g.out ++ suiteVerdicts (op :: rest) (curS l) := by
  have hfail : (doFail l g).2.out = g.out ++ [.failMsg] := rfl
  rcases op with n | n | (_ | _) | (_ | _) | _
  · cases n <;> simp [step, doSuite_eq, testVerdicts, suiteVerdicts, tvOf, svOf, curT, curS]
  · cases n <;> simp [step, doTest_eq, testVerdicts, suiteVerdicts, curT, curS]
  · simp [step, testVerdicts, suiteVerdicts, doFail_cur, hfail, tvOf, svOf]
  · simp [step, testVerdicts, suiteVerdicts]
  · simp [step, testVerdicts, suiteVerdicts, doFail_cur, hfail, tvOf, svOf]
  · simp [step, testVerdicts, suiteVerdicts]
  · obtain ⟨a1, a2, a3, a4⟩ := doEndTesting_out l g h
    simp [step, testVerdicts, suiteVerdicts, a1, a2, a3, a4]

theorem verdicts_gen (ops : List Op) : ∀ (l l1 : Local) (g : Global), Inv l g →
    tvOf (run (tag ops) l l1 g).1.out = tvOf g.out ++ testVerdicts (trace ops l g) (curT l) ∧
    svOf (run (tag ops) l l1 g).1.out = svOf g.out ++ suiteVerdicts (trace ops l g) (curS l) := by
  induction ops with
  | nil => intro l l1 g h; exact atExit_out l g 0 h
  | cons op ops ih =>
    intro l l1 g h
    have i := (step_ctl l g op h).1
    rw [run_cons, trace]
    cases (step l g op).2.2 with
    | some st => rw [← (step_out l g op h []).1, ← (step_out l g op h []).2]; exact atExit_out _ _ st i
    | none => rw [← (step_out l g op h _).1, ← (step_out l g op h _).2]; exact ih _ l1 _ i

/-- C19 (verdict lines): the PASSED / FAILED lines of a single-threaded program are exactly one line per test started
(resp. suite), in starting order, FAILED iff an expectation or assertion failed while it was running. -/
theorem each_reported_once (ops : List Op) :
    tvOf (runProgram (tag ops)).1.out = testVerdicts (trace ops {} {}) none ∧
    svOf (runProgram (tag ops)).1.out = suiteVerdicts (trace ops {} {}) none :=
  verdicts_gen ops {} {} {} inv_init

/-- `each_reported_once` with the executed prefix spelled out at property level -/
theorem each_reported_once' (ops : List Op) :
    tvOf (runProgram (tag ops)).1.out = testVerdicts (cut ops false false false) none ∧
    svOf (runProgram (tag ops)).1.out = suiteVerdicts (cut ops false false false) none := by
  rw [← trace_init]; exact each_reported_once ops

/-- the counters agree with the verdict lines printed since the last clean summary -/
def TInv (l : Local) (g : Global) : Prop :=
  ∃ t s, tally g.out = some (t, s, g.testsFailed, g.suitesFailed) ∧
    t + (if l.curTest.isSome then 1 else 0) = g.tests ∧ s + (if l.curSuite.isSome then 1 else 0) = g.suites

theorem doEndTesting_tinv (l : Local) (g : Global) (h : TInv l g) :
    TInv (doEndTesting l g).1 (doEndTesting l g).2.1 := by
  by_cases h0 : g.tests + g.suites = 0
  · simpa [doEndTesting, h0] using h
  · obtain ⟨t, s, h1, h2, h3⟩ := h
    -- once the running test and suite are reported, the tallies are the four numbers of the summary
    have hs : tally (g.out ++ closeT l ++ closeS l) = some (g.tests, g.suites, failedT l g, failedS l g) :=
      h2 ▸ h3 ▸ tally_closeS _ l (tally_closeT g.out l h1)
    have key : tally (g.out ++ closeT l ++ closeS l ++ [.summary g.tests g.suites (failedT l g) (failedS l g)]) =
        if failedT l g = 0 ∧ failedS l g = 0 then some (0, 0, 0, 0)
        else some (g.tests, g.suites, failedT l g, failedS l g) := by
      rw [tally_append, hs]; simp [tstep]
    rw [doEndTesting_eq l g h0]
    cases hp : pend l g
    · exact ⟨0, 0, key.trans (if_pos (pend_eq_false.1 hp)), rfl, rfl⟩
    · exact ⟨g.tests, g.suites, key.trans (if_neg fun hz => by simp [pend_eq_false.2 hz] at hp), rfl, rfl⟩

theorem step_tinv (l : Local) (g : Global) (op : Op) (h : TInv l g) :
    TInv (step l g op).1 (step l g op).2.1 := by
  have ⟨t, s, h1, h2, h3⟩ := h
  -- the message of a failed expectation is no verdict line
  have hfail : TInv (doFail l g).1 (doFail l g).2 := ⟨t, s, by simp [doFail, tally_append, h1, tstep], h2, h3⟩
  rcases op with n | n | (_ | _) | (_ | _) | _
  · rw [step, doSuite_eq]
    refine ⟨t + (if l.curTest.isSome then 1 else 0), s + (if l.curSuite.isSome then 1 else 0), ?_, ?_, ?_⟩
    · rw [tally_append _ (n.toList.map _), tally_closeS _ l (tally_closeT g.out l h1)]; cases n <;> rfl
    · simp only [Option.isSome_none, Bool.false_eq_true, if_false]; omega
    · simp only; omega
  · rw [step, doTest_eq]
    exact ⟨_, _, tally_closeT g.out l h1, by simp only; omega, h3⟩
  · exact hfail
  · exact h
  · exact hfail
  · exact h
  · exact doEndTesting_tinv l g h

theorem atExit_tally (l : Local) (g : Global) (st : Nat) (h : TInv l g) :
    (tally (atExit l g st).1.out).isSome := by
  unfold atExit
  split
  · obtain ⟨t, s, h1, _⟩ := doEndTesting_tinv l g h
    simp [h1]
  · obtain ⟨t, s, h1, _⟩ := h
    simp [h1]

theorem tally_gen (ops : List Op) : ∀ (l l1 : Local) (g : Global), TInv l g →
    (tally (run (tag ops) l l1 g).1.out).isSome := by
  induction ops with
  | nil => intro l l1 g h; exact atExit_tally l g 0 h
  | cons op ops ih =>
    intro l l1 g h
    have i := step_tinv l g op h
    rw [run_cons]
    cases (step l g op).2.2 with
    | some st => exact atExit_tally _ _ st i
    | none => exact ih _ l1 _ i

/-- C19 (summary counts): every summary line printed by a single-threaded program shows exactly the numbers of test
and suite verdict lines, and of FAILED ones, printed since the last clean summary. -/
theorem summary_counts (ops : List Op) : (tally (runProgram (tag ops)).1.out).isSome :=
  tally_gen ops {} {} {} ⟨0, 0, rfl, rfl, rfl⟩

-- a failed expectation inside a test: status 1, the test and its suite FAILED, the next test PASSED
example : runProgram (tag [.suite (some 1), .test (some 1), .expect false, .test (some 2), .expect true]) =
    ({ tests := 2, suites := 1, testsFailed := 1, suitesFailed := 1, armed := true,
       out := [.suiteStart 1, .failMsg, .testVerdict 1 false, .testVerdict 2 true, .suiteVerdict 1 false,
               .summary 2 1 1 1] }, 1) := by decide
-- a failed expectation outside any test or suite is only a message
example : (runProgram (tag [.expect false, .test (some 1)])).2 = 0 := by decide
example : marks [.expect false, .test (some 1)] false false = false := by decide
-- an assertion failure outside any test fails the process, and nothing after it runs
example : runProgram (tag [.assert false, .test (some 1)]) = ({ out := [.failMsg] }, 1) := by decide
-- a clean explicit end_testing resets the tallies; later failures are still reported
example : (runProgram (tag [.test (some 1), .endTesting, .test (some 2), .expect false])).1.out =
    [.testVerdict 1 true, .summary 1 0 0 0, .failMsg, .testVerdict 2 false, .summary 1 0 1 0] := by decide
example : cut [.test (some 1), .expect false, .endTesting, .test (some 2)] false false false =
    [.test (some 1), .expect false, .endTesting] := by decide
-- `Inv` holds in a non-initial state
example : Inv { curTest := some 3, testFailed := true } { tests := 2, testsFailed := 1, armed := true } :=
  ⟨by simp, by simp, by simp, by simp, by simp⟩

end Gpc.TestFw
