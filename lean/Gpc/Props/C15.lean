import Gpc.Model.Scratch
import Gpc.Proofs.Array
import Gpc.Proofs.Arena
/-!
# C15 — temporary memory is given back; memory use is linear in input and output size

`Gpc.Scratch` runs the arena operations of every scratch-using function on the arena model of C01.
-/
namespace Gpc.Scratch
open Gpc.Arena (Arena Addr Node)

/-- what a caller can observe of an arena: capacity and bump position of every node -/
def shape (a : Arena) : List (Nat × Nat) := a.nodes.map fun n => (n.cap, n.pos)

/-- `a` is `base` after allocations made behind the rewind point: the nodes below `base`'s head are untouched, the head
has its capacity and a position not before the rewind point, and any number of newer nodes may sit on top -/
def Above (base a : Arena) : Prop :=
  ∃ extra n n' tail, base.nodes = n :: tail ∧ a.nodes = extra ++ n' :: tail ∧ n'.cap = n.cap ∧ n.pos ≤ n'.pos ∧
    a.align = base.align ∧ a.maxSize = base.maxSize

/-- the address of the rewind point taken in `base`: a zero-size allocation returns the bump pointer -/
def marker (base : Arena) : Addr :=
  match base.nodes with
  | n :: tail => ⟨tail.length, n.pos⟩
  | [] => ⟨0, 0⟩

/-- a block allocated behind the rewind point -/
def Behind (base : Arena) (p : Addr) : Prop :=
  (marker base).node < p.node ∨ ((marker base).node = p.node ∧ (marker base).off ≤ p.off)

theorem above_refl (base : Arena) (h : base.nodes ≠ []) : Above base base := by
  obtain ⟨n, tail, hn⟩ := List.exists_cons_of_ne_nil h
  exact ⟨[], n, n, tail, hn, hn, rfl, Nat.le_refl _, rfl, rfl⟩

theorem marker_alloc (base : Arena) (n : Node) (tail : List Node) (hn : base.nodes = n :: tail) (hfit : n.pos ≤ n.cap) :
    (Gpc.Arena.alloc g base 0).2 = marker base ∧ shape (Gpc.Arena.alloc g base 0).1 = shape base := by
  rcases Gpc.Arena.alloc_cases g hn 0 with ⟨_, e⟩ | ⟨hbig, _⟩
  · rw [e, Gpc.Arena.roundUp_zero]; simp [marker, shape, hn]
  · rw [Gpc.Arena.roundUp_zero] at hbig; omega

/-- allocating keeps everything at and below the rewind point -/
theorem above_alloc (base a : Arena) (k : Nat) (h : Above base a) :
    Above base (Gpc.Arena.alloc g a k).1 ∧ Behind base (Gpc.Arena.alloc g a k).2 := by
  obtain ⟨extra, n, n', tail, hb, ha, hcap, hpos, hal, hmx⟩ := h
  simp only [Behind, marker, hb]
  cases extra with
  | nil =>
    rcases Gpc.Arena.alloc_cases g ha k with ⟨_, e⟩ | ⟨_, cap, _, e⟩ <;> rw [e]
    · exact ⟨⟨[], n, _, tail, hb, rfl, hcap, Nat.le_trans hpos (Nat.le_add_right _ _), hal, hmx⟩, Or.inr ⟨rfl, hpos⟩⟩
    · exact ⟨⟨[_], n, n', tail, hb, rfl, hcap, hpos, hal, hmx⟩, Or.inl (Nat.lt_succ_self _)⟩
  | cons x xs =>
    rcases Gpc.Arena.alloc_cases g ha k with ⟨_, e⟩ | ⟨_, cap, _, e⟩ <;> rw [e]
    · exact ⟨⟨_ :: xs, n, n', tail, hb, rfl, hcap, hpos, hal, hmx⟩, Or.inl (by simp; omega)⟩
    · exact ⟨⟨_ :: x :: xs, n, n', tail, hb, rfl, hcap, hpos, hal, hmx⟩, Or.inl (by simp; omega)⟩

/-- rewinding to the rewind point restores the arena as the caller sees it -/
theorem rewind_restores (base a : Arena) (h : Above base a) (hfit : ∀ n ∈ base.nodes.head?, n.pos ≤ n.cap) :
    ∃ a', Gpc.Arena.rewind a (marker base) = some a' ∧ shape a' = shape base := by
  obtain ⟨extra, n, n', tail, hb, ha, hcap, hpos, hal, hmx⟩ := h
  have hf : n.pos ≤ n.cap := hfit n (by simp [hb])
  exact ⟨_, Gpc.Arena.rewind_eq (p := marker base) ha (by simp [marker, hb]) (by simp [marker, hb, hcap, hf]),
    by simp [shape, hb, hcap, marker]⟩

theorem above_cut {base a : Arena} (h : Above base a) {head : Node} {rest : List Node} (hnodes : a.nodes = head :: rest)
    {p : Addr} (hp : Behind base p) (hlast : p.node = rest.length) :
    Above base { a with nodes := head.cut p.off :: rest } := by
  obtain ⟨extra, n, n', tail, hb, ha, hcap, hpos, hal, hmx⟩ := h
  rw [ha] at hnodes
  cases extra with
  | nil =>
    obtain ⟨rfl, rfl⟩ := List.cons.inj hnodes.symm
    simp only [Behind, marker, hb] at hp
    exact ⟨[], n, head.cut p.off, rest, hb, rfl, hcap, by simp only []; omega, hal, hmx⟩
  | cons e es =>
    obtain ⟨rfl, rfl⟩ := List.cons.inj hnodes.symm
    exact ⟨_ :: es, n, n', tail, hb, rfl, hcap, hpos, hal, hmx⟩

theorem above_forget {base a : Arena} (h : Above base a) {p : Addr} (hp : Behind base p) :
    Above base (Gpc.Arena.forget a p) := by
  obtain ⟨extra, n, n', tail, hb, ha, hcap, hpos, hal, hmx⟩ := h
  have hi : a.nodes.length - 1 - p.node < extra.length + 1 := by
    simp only [Behind, marker, hb] at hp
    simp only [ha, List.length_append, List.length_cons]
    omega
  -- only a node at or above the one of the rewind point loses a block
  simp only [Gpc.Arena.forget, Gpc.Arena.forgetAt_eq_modify]
  generalize a.nodes.length - 1 - p.node = i at hi
  generalize hL : a.nodes.modify i _ = L
  have hk : extra.length < L.length := by simp [← hL, ha]
  have e1 : L.drop (extra.length + 1) = tail := by
    rw [← hL, List.drop_modify_of_lt _ _ _ _ hi, ha, List.drop_append, List.drop_eq_nil_of_le (by omega)]
    simp
  have e2 : L[extra.length].cap = n'.cap ∧ L[extra.length].pos = n'.pos := by
    simp only [← hL, List.getElem_modify, ha, List.getElem_append_right (Nat.le_refl _), Nat.sub_self,
      List.getElem_cons_zero]
    split <;> exact ⟨rfl, rfl⟩
  refine ⟨L.take extra.length, n, L[extra.length], tail, hb, ?_, e2.1.trans hcap, e2.2 ▸ hpos, hal, hmx⟩
  rw [← e1, List.getElem_cons_drop, List.take_append_drop]

/-- growing a temporary in the arena keeps everything at and below the rewind point -/
theorem above_realloc (base a : Arena) (p : Addr) (old new : Nat) (h : Above base a) (hp : Behind base p) :
    Above base (Gpc.Arena.realloc g a p old new).arena ∧ Behind base (Gpc.Arena.realloc g a p old new).addr := by
  obtain ⟨head, rest, hnodes⟩ : ∃ head rest, a.nodes = head :: rest := by
    obtain ⟨extra, _, _, _, _, ha, _⟩ := h
    cases extra <;> simp [ha]
  rw [Gpc.Arena.realloc_eq g hnodes]
  split
  · rename_i hlast
    exact above_alloc base _ new (above_cut h hnodes hp hlast.1)
  · exact ⟨above_forget (above_alloc base a new h).1 hp, (above_alloc base a new h).2⟩

/-! the operations of the scripts: each keeps the arena above the rewind point and its temporary behind it -/

theorem st_arrNew {base : Arena} {s : St} (es count : Nat) (h : Above base s.arena) :
    Above base (s.arrNew es count).1.arena ∧ Behind base (s.arrNew es count).2.addr :=
  above_alloc base s.arena (arrBytes es count) h

theorem st_reserve {base : Arena} {s : St} {t : Tmp} (req : Nat) (h : Above base s.arena ∧ Behind base t.addr) :
    Above base (s.reserve t req).1.arena ∧ Behind base (s.reserve t req).2.addr := by
  unfold St.reserve
  split
  · exact above_realloc base s.arena t.addr _ _ h.1 h.2
  · exact h

theorem st_appends {base : Arena} (extra : Nat) (ns : List Nat) : ∀ {s : St} {t : Tmp},
    Above base s.arena ∧ Behind base t.addr →
    Above base (s.appends t extra ns).1.arena ∧ Behind base (s.appends t extra ns).2.addr := by
  induction ns with
  | nil => exact id
  | cons n ns ih => exact fun h => ih (st_reserve _ h)

theorem st_foldInto {base : Arena} {s : St} {t : Tmp} (loc : Gpc.CaseFull.Loc) (cps : List Nat) (bl : Nat)
    (h : Above base s.arena ∧ Behind base t.addr) : Above base (foldInto s t loc cps bl).1.arena := by
  have hr := st_reserve (t := { t with len := 0 }) (bl + 1) h
  unfold foldInto
  -- the length written into the temporary in between does not move it; the goal has to fix the temporary before
  -- `hr` is looked at, hence `refine`
  refine (st_appends 1 _ ?_).1
  exact hr

/-- the head node of a well-formed arena: position within capacity (part of C01's invariant) -/
def Fits (a : Arena) : Prop := ∃ n tail, a.nodes = n :: tail ∧ n.pos ≤ n.cap

theorem above_marker {s : St} (hf : Fits s.arena) : Above s.arena (s.alloc 0).1.arena := by
  obtain ⟨n, tail, hn, -⟩ := hf
  exact (above_alloc s.arena s.arena 0 (above_refl s.arena (hn ▸ List.cons_ne_nil n tail))).1

/-- whatever a function allocates and grows behind the zero-size allocation it took first, the rewind to that allocation
restores the arena as the caller sees it -/
theorem restores (s : St) (hf : Fits s.arena) {s' : St} (h : Above s.arena s'.arena) :
    ∃ s'', s'.rewind (s.alloc 0).2 = some s'' ∧ shape s''.arena = shape s.arena := by
  obtain ⟨n, tail, hn, hfit⟩ := hf
  obtain ⟨a', e, sh⟩ := rewind_restores s.arena s'.arena h (by simpa [hn] using hfit)
  -- a zero-size allocation that fits returns the bump pointer
  have hm : (s.alloc 0).2 = marker s.arena := (marker_alloc s.arena n tail hn hfit).1
  exact ⟨_, by rw [St.rewind, hm, e]; rfl, sh⟩

/-- full case mapping (`gp_str_to_upper_full`, `gp_str_to_lower_full`): for every prior state of the scratch arena, every
input length and every sequence of appended chunk sizes (any number of expanding code points), the final rewind succeeds
and every node has the capacity and position it had when the call began -/
theorem caseFull_restores (s : St) (byteLen : Nat) (chunks : List Nat) (hf : Fits s.arena) :
    ∃ s', caseFullScript s byteLen chunks = some s' ∧ shape s'.arena = shape s.arena :=
  restores s hf (st_appends 0 chunks (st_arrNew 4 byteLen (above_marker hf))).1

/-- simple case mapping (`gp_str_to_upper / _lower / _title`) -/
theorem caseSimple_restores (s : St) (byteLen : Nat) (hf : Fits s.arena) :
    ∃ s', caseSimpleScript s byteLen = some s' ∧ shape s'.arena = shape s.arena :=
  restores s hf (st_arrNew 4 byteLen (above_marker hf)).1

/-- comparison with fold / collate (`gp_str_compare`): both wide strings may be moved by their reserves, in any order of
sizes -/
theorem compare_restores (s : St) (fold : Bool) (loc : Gpc.CaseFull.Loc) (a b : List Nat) (la lb : Nat) (hf : Fits s.arena) :
    ∃ s', compareScript s fold loc a b la lb = some s' ∧ shape s'.arena = shape s.arena := by
  have h1 := st_arrNew 4 (a.length + 1) (above_marker hf)
  have h2 := st_arrNew 4 (b.length + 1) h1.1
  unfold compareScript
  cases fold with
  | false => exact restores s hf h2.1
  | true =>
    simp only [if_true]
    exact restores s hf (st_foldInto loc b lb ⟨st_foldInto loc a la ⟨h2.1, h1.2⟩, h2.2⟩)

theorem st_sortFold {base : Arena} (fold : Bool) (loc : Gpc.CaseFull.Loc) (strs : List (List Nat × Nat)) :
    ∀ {s : St}, Above base s.arena →
    Above base (strs.foldl (fun s (p : List Nat × Nat) =>
      if fold then (foldInto (s.arrNew 4 (p.2 + 1)).1 (s.arrNew 4 (p.2 + 1)).2 loc p.1 p.2).1 else (s.arrNew 4 (p.2 + 1)).1) s).arena := by
  induction strs with
  | nil => exact id
  | cons p ps ih =>
    intro s h
    refine ih ?_
    cases fold with
    | false => exact (st_arrNew 4 (p.2 + 1) h).1
    | true => exact st_foldInto loc p.1 p.2 (st_arrNew 4 (p.2 + 1) h)

/-- sorting with fold / collate (`gp_str_sort`): any number of strings -/
theorem sort_restores (s : St) (fold : Bool) (loc : Gpc.CaseFull.Loc) (strs : List (List Nat × Nat)) (hf : Fits s.arena) :
    ∃ s', sortScript s fold loc strs = some s' ∧ shape s'.arena = shape s.arena :=
  restores s hf (st_sortFold fold loc strs (above_alloc s.arena _ (24 * strs.length) (above_marker hf)).1)

theorem fits_of_shape (a b : Arena) (h : shape a = shape b) (hf : Fits b) : Fits a := by
  obtain ⟨n, tail, hn, hfit⟩ := hf
  unfold shape at h
  rw [hn] at h
  cases ha : a.nodes with
  | nil => simp [ha] at h
  | cons m t =>
    rw [ha] at h
    simp only [List.map_cons, List.cons.injEq, Prod.mk.injEq] at h
    exact ⟨m, t, ha, by omega⟩

/-- a call that restores the arena can be repeated any number of times; the arena is the same after every call (bounded
memory) -/
theorem repeat_restores (f : St → Option St)
    (hf : ∀ s, Fits s.arena → ∃ s', f s = some s' ∧ shape s'.arena = shape s.arena) :
    ∀ (n : Nat) (s : St), Fits s.arena →
      ∃ s', (Nat.rec (motive := fun _ => St → Option St) some (fun _ r st => (f st).bind r) n) s = some s' ∧
        shape s'.arena = shape s.arena := by
  intro n
  induction n with
  | zero => intro s _; exact ⟨s, rfl, rfl⟩
  | succ k ih =>
    intro s hs
    obtain ⟨s1, e1, sh1⟩ := hf s hs
    obtain ⟨s2, e2, sh2⟩ := ih s1 (fits_of_shape _ _ sh1 hs)
    exact ⟨s2, by simp [e1, e2], by rw [sh2, sh1]⟩

theorem np2_le_double (x : Nat) (hx : 1 ≤ x) : Gpc.Arr.np2 x ≤ 2 * x := by
  unfold Gpc.Arr.np2
  rw [if_neg (by omega), Nat.pow_succ]
  have := Nat.log2_self_le (by omega : x ≠ 0)
  omega

theorem reserve_cap (s : St) (t : Tmp) (req : Nat) :
    (s.reserve t req).2.cap ≤ max t.cap (2 * req) ∧ req ≤ (s.reserve t req).2.cap ∧ (s.reserve t req).2.len = t.len := by
  unfold St.reserve
  split
  · rename_i h
    have h1 := np2_le_double req (by omega)
    have h2 := Gpc.Arr.np2_gt req
    exact ⟨by simp only; omega, by simp only; omega, rfl⟩
  · rename_i h
    exact ⟨by simp only; omega, by simp only; omega, rfl⟩

/-- the work array never holds more than twice what is needed (or its initial capacity): for every sequence of appended
chunks, in particular any number of expanding code points, capacity is linear in the number of code points produced -/
theorem appends_cap_linear (extra : Nat) (ns : List Nat) : ∀ (s : St) (t : Tmp),
    (s.appends t extra ns).2.cap ≤ max t.cap (2 * ((s.appends t extra ns).2.len + extra)) ∧
    (s.appends t extra ns).2.len = t.len + ns.sum := by
  induction ns with
  | nil => intro s t; simp only [St.appends, List.sum_nil, Nat.add_zero]; exact ⟨Nat.le_max_left _ _, trivial⟩
  | cons n ns ih =>
    intro s t
    obtain ⟨c1, c2, c3⟩ := reserve_cap s t (t.len + n + extra)
    simp only [St.appends, St.append]
    generalize s.reserve t (t.len + n + extra) = r at c1 c2 c3 ⊢
    obtain ⟨i1, i2⟩ := ih r.1 { r.2 with len := r.2.len + n }
    simp only [List.sum_cons] at i1 i2 ⊢
    omega

example : Fits fresh := ⟨_, _, rfl, by decide⟩
-- 64 sharp s: one growth to 512 bytes more than the first node holds; everything is given back
example : (caseFullScript { arena := fresh } 128 (List.replicate 64 2)).map (fun s => (shape s.arena, s.mallocs, s.frees)) =
    some ([(256, 0)], [576], 1) := by decide +kernel
-- 300 expansions (900 code points) from a 2-byte string: geometric growth, every node is given back
example : (caseFullScript { arena := fresh } 2 (List.replicate 300 3)).map (fun s => (shape s.arena, s.mallocs, s.frees)) =
    some ([(256, 0)], [544, 1056, 2080, 4128, 8224], 5) := by decide +kernel

end Gpc.Scratch
