import Gpc.Model.CaseMap
import Gpc.Ucd.Case
import Gpc.Props.C07
import Gpc.Proofs.CaseClasses
/-!
# C11 — simple case conversion follows the Unicode Character Database for every code point

`Gpc.Generated.*` are the tables extracted from the compiled code over all code points on every run,
`Gpc.Ucd.*` the vendored UCD tables.  The tables are canonical, so equality of the lists (the same
data: `rfl`) is equality of the functions on every code point.
-/
namespace Gpc.CaseMap
open Gpc.CaseTable Gpc.Generated Gpc.Utf Gpc.Utf8

theorem upper_table_eq : implUpper = Gpc.Ucd.upper := rfl
theorem lower_table_eq : implLower = Gpc.Ucd.lower := rfl
theorem title_table_eq : implTitle = Gpc.Ucd.title := rfl
theorem orbits_eq_classes : implOrbits = Gpc.Ucd.foldClasses := rfl

/-- UCD simple mappings as functions -/
def ucdUpper (c : Nat) : Nat := apply Gpc.Ucd.upper c
def ucdLower (c : Nat) : Nat := apply Gpc.Ucd.lower c
def ucdTitle (c : Nat) : Nat := apply Gpc.Ucd.title c
def ucdScf (c : Nat) : Nat := apply Gpc.Ucd.scf c

theorem toUpper_eq_ucd (c : Nat) : toUpper c = ucdUpper c := congrArg (apply · c) upper_table_eq
theorem toLower_eq_ucd (c : Nat) : toLower c = ucdLower c := congrArg (apply · c) lower_table_eq
theorem toTitle_eq_ucd (c : Nat) : toTitle c = ucdTitle c := congrArg (apply · c) title_table_eq

/-- every entry maps its whole range into the scalar values -/
def ScalarEntry (e : E) : Bool :=
  decide (e.lo ≤ e.hi ∧ 0 ≤ (e.lo : Int) + e.d ∧ (e.hi : Int) + e.d < 0x110000 ∧
          ((e.hi : Int) + e.d < 0xD800 ∨ 0xDFFF < (e.lo : Int) + e.d))

theorem upper_scalar_table : Gpc.Ucd.upper.all ScalarEntry = true := by decide +kernel
theorem lower_scalar_table : Gpc.Ucd.lower.all ScalarEntry = true := by decide +kernel
theorem title_scalar_table : Gpc.Ucd.title.all ScalarEntry = true := by decide +kernel

theorem apply_scalar (t : List E) (ht : t.all ScalarEntry = true) (c : Nat) (hc : IsScalar c) : IsScalar (apply t c) := by
  unfold apply
  cases hf : t.find? (fun e => decide (e.lo ≤ c ∧ c ≤ e.hi)) with
  | none => exact hc
  | some e =>
    have hmem := List.mem_of_find?_eq_some hf
    have hp := List.find?_some hf
    simp only [decide_eq_true_eq] at hp
    have he := (List.all_eq_true.1 ht) e hmem
    simp only [ScalarEntry, decide_eq_true_eq] at he
    unfold IsScalar
    simp only []
    omega

/-- `gp_u32_to_upper/lower/title` map Unicode scalar values to Unicode scalar values -/
theorem maps_scalar_to_scalar (c : Nat) (hc : IsScalar c) :
    IsScalar (toUpper c) ∧ IsScalar (toLower c) ∧ IsScalar (toTitle c) := by
  rw [toUpper_eq_ucd, toLower_eq_ucd, toTitle_eq_ucd]
  exact ⟨apply_scalar _ upper_scalar_table c hc, apply_scalar _ lower_scalar_table c hc,
         apply_scalar _ title_scalar_table c hc⟩

/-- `gp_str_to_upper/lower/title` on valid UTF-8: the result is the UTF-8 encoding of the pointwise mapped
scalar values, so valid UTF-8 with the same number of code points -/
theorem str_map_spec (f : Nat → Nat) (hf : ∀ c, IsScalar c → IsScalar (f c)) (s : Bytes) (hs : WellFormed s) :
    ∃ cps : List Nat, (∀ c ∈ cps, IsScalar c) ∧ s = cps.flatMap encodeU8 ∧
      strMap f s = some ((cps.map f).flatMap encodeU8) ∧ WellFormed ((cps.map f).flatMap encodeU8) := by
  obtain ⟨cps, h1, h2⟩ := wellFormed_is_encoding s hs
  refine ⟨cps, h1, h2, ?_, ?_⟩
  · unfold strMap
    rw [h2, decodeAll_encoding cps (fun c hc => (h1 c hc).1) _ (Nat.le_refl _)]
    exact utf32_to_utf8_spec _ _
  · apply wellFormed_encoding
    intro c hc
    obtain ⟨x, hx, rfl⟩ := List.mem_map.1 hc
    exact hf x (h1 x hx)

theorem str_to_upper_spec (s : Bytes) (hs : WellFormed s) :
    ∃ cps : List Nat, (∀ c ∈ cps, IsScalar c) ∧ s = cps.flatMap encodeU8 ∧
      strMap toUpper s = some ((cps.map ucdUpper).flatMap encodeU8) ∧
      WellFormed ((cps.map ucdUpper).flatMap encodeU8) :=
  (funext toUpper_eq_ucd : toUpper = ucdUpper) ▸ str_map_spec toUpper (fun c hc => (maps_scalar_to_scalar c hc).1) s hs

theorem str_to_lower_spec (s : Bytes) (hs : WellFormed s) :
    ∃ cps : List Nat, (∀ c ∈ cps, IsScalar c) ∧ s = cps.flatMap encodeU8 ∧
      strMap toLower s = some ((cps.map ucdLower).flatMap encodeU8) ∧
      WellFormed ((cps.map ucdLower).flatMap encodeU8) :=
  (funext toLower_eq_ucd : toLower = ucdLower) ▸ str_map_spec toLower (fun c hc => (maps_scalar_to_scalar c hc).2.1) s hs

theorem str_to_title_spec (s : Bytes) (hs : WellFormed s) :
    ∃ cps : List Nat, (∀ c ∈ cps, IsScalar c) ∧ s = cps.flatMap encodeU8 ∧
      strMap toTitle s = some ((cps.map ucdTitle).flatMap encodeU8) ∧
      WellFormed ((cps.map ucdTitle).flatMap encodeU8) :=
  (funext toTitle_eq_ucd : toTitle = ucdTitle) ▸ str_map_spec toTitle (fun c hc => (maps_scalar_to_scalar c hc).2.2) s hs

theorem cls_of_mem (c : Nat) (cl : List Nat) (h : Gpc.Ucd.classOfT.find c = some cl) (x : Nat) (hx : x ∈ cl) :
    Gpc.Ucd.classOfT.find x = some cl := (in_class h).2.2 x hx

/-- `gp_str_equal_case` on valid UTF-8 strings holds exactly when the two strings have equal simple
case foldings (code point by code point) -/
theorem equal_case_iff (cps1 cps2 : List Nat) (h1 : ∀ c ∈ cps1, IsScalar c) (h2 : ∀ c ∈ cps2, IsScalar c) :
    strEqualCase (cps1.flatMap encodeU8) (cps2.flatMap encodeU8) = some true ↔ cps1.map scf = cps2.map scf := by
  unfold strEqualCase
  rw [decodeAll_encoding cps1 (fun c hc => (h1 c hc).1) _ (Nat.le_refl _),
      decodeAll_encoding cps2 (fun c hc => (h2 c hc).1) _ (Nat.le_refl _)]
  simp only [Option.some.injEq, Bool.and_eq_true, beq_iff_eq, equalCpList_iff]
  constructor
  · exact fun h => h.2
  · intro h; exact ⟨by have := congrArg List.length h; simpa using this, h⟩

/-- equality of the simple case foldings, to which `equal_case_iff` reduces `gp_str_equal_case`, is an
equivalence (the three statements are about the foldings only) -/
theorem equal_case_refl (cps : List Nat) : cps.map scf = cps.map scf := rfl
theorem equal_case_symm (a b : List Nat) (h : a.map scf = b.map scf) : b.map scf = a.map scf := h.symm
theorem equal_case_trans (a b c : List Nat) (h1 : a.map scf = b.map scf) (h2 : b.map scf = c.map scf) :
    a.map scf = c.map scf := h1.trans h2

/-- K / k / KELVIN SIGN and S / s / LONG S are three-element orbits -/
example : equalCp simpleFold 0x4B 0x212A = true ∧ equalCp simpleFold 0x17F 0x53 = true
    ∧ equalCp simpleFold 0x4B 0x4C = false := by decide +kernel

end Gpc.CaseMap
