import Gpc.Model.Arena
import Gpc.Proofs.Arena
import Gpc.Model.DeferStack
/-!
# C01 — allocator blocks are exclusive, aligned, big enough; resize/rewind keep data

All theorems hold for every growth function `g` (hence every growth coefficient), every `maxSize`, every alignment > 0
and every request size.  Left out: block contents are not modelled (data is kept in the sense of `realloc_copy` plus
disjointness of the live blocks), and alignment is relative to the node's payload start.
-/
namespace Gpc.Arena

theorem inv_new (capacity align maxSize : Nat) (ha : 0 < align) : Inv (new capacity align maxSize) :=
  Iff.mpr (inv_cons rfl) ⟨ha, ⟨Nat.zero_le _, Nat.zero_mod _, trivial⟩, fun _ hn => nomatch hn⟩

/-- the block `alloc` returns is aligned and backed by `≥ n` bytes inside its node's obtained memory; every other live
block of that node lies entirely below it, and all other nodes are untouched -/
theorem alloc_fresh (g : Nat → Nat) (a : Arena) (n : Nat) (h : Inv a) :
    ∃ hd tl bs, (alloc g a n).1.nodes = hd :: tl ∧ (alloc g a n).2.node = tl.length ∧
      hd.blocks = ⟨(alloc g a n).2.off, n⟩ :: bs ∧
      (alloc g a n).2.off % a.align = 0 ∧
      (alloc g a n).2.off + n ≤ hd.cap ∧
      BlocksOk a.align bs (alloc g a n).2.off ∧
      ((tl = a.nodes ∧ bs = []) ∨
       (∃ oh, a.nodes = oh :: tl ∧ bs = oh.blocks ∧ hd.cap = oh.cap ∧ (alloc g a n).2.off = oh.pos)) := by
  obtain ⟨hd, tl, hnodes, hok, -⟩ := h.exists_cons
  have hge := roundUp_ge n a.align h.al_pos
  rcases alloc_cases g hnodes n with ⟨hfit, e⟩ | ⟨-, cap, hcap, e⟩ <;> rw [e]
  · exact ⟨_, _, hd.blocks, rfl, rfl, rfl, hok.pos_al, by simp only []; omega, hok.blocks,
      Or.inr ⟨hd, hnodes, rfl, rfl, rfl⟩⟩
  · exact ⟨_, _, [], rfl, by simp, rfl, Nat.zero_mod _, by simp only []; omega, trivial, Or.inl ⟨hnodes.symm, rfl⟩⟩

theorem inv_alloc (g : Nat → Nat) (a : Arena) (n : Nat) (h : Inv a) : Inv (alloc g a n).1 := by
  obtain ⟨hd, tl, hnodes, hok, htl⟩ := h.exists_cons
  have hmod := roundUp_mod n a.align
  rcases alloc_cases g hnodes n with ⟨hfit, e⟩ | ⟨-, cap, hcap, e⟩ <;> rw [e]
  · refine (inv_cons rfl).2 ⟨h.al_pos, ⟨hfit, by rw [Nat.add_mod, hok.pos_al, hmod]; exact Nat.zero_mod _, ?_⟩, htl⟩
    exact ⟨Nat.le_refl _, hok.pos_al, hok.blocks⟩
  · refine (inv_cons rfl).2 ⟨h.al_pos, ⟨hcap, hmod, ?_⟩, List.forall_mem_cons.2 ⟨hok, htl⟩⟩
    exact ⟨by simp, Nat.zero_mod _, trivial⟩

/-- any two ledger entries of a node have disjoint byte ranges: the older one ends at or below the start of the newer -/
theorem blocks_disjoint {al : Nat} {bs : List Blk} {p : Nat} (h : BlocksOk al bs p) (i j : Nat)
    (hij : i < j) (hj : j < bs.length) :
    (bs[j]'hj).off + roundUp (bs[j]'hj).size al ≤ (bs[i]'(by omega)).off :=
  List.pairwise_iff_getElem.1 h.pairwise i j (by omega) hj hij

/-- rewinding to a live block releases exactly that block and everything allocated after it (newer nodes are popped, the
block's node keeps precisely the entries that start below it); the invariant holds again -/
theorem rewind_exact (a : Arena) (p : Addr) (h : Inv a) (hp : p.node < a.nodes.length)
    (t : Blk) (ht : t.off = p.off)
    (hlive : t ∈ (a.nodes[a.nodes.length - 1 - p.node]'(by omega)).blocks) :
    ∃ a', rewind a p = some a' ∧ Inv a' ∧
      a'.nodes = { (a.nodes[a.nodes.length - 1 - p.node]'(by omega)) with
                    pos := p.off,
                    blocks := (a.nodes[a.nodes.length - 1 - p.node]'(by omega)).blocks.filter
                                (fun b => decide (b.off < p.off)) }
                 :: a.nodes.drop (a.nodes.length - 1 - p.node + 1) ∧
      a'.nodes.length = p.node + 1 := by
  have hk : a.nodes.length - 1 - p.node < a.nodes.length := by omega
  have hok := (h.nodes _ (List.getElem_mem hk)).cut hlive
  rw [ht] at hok
  have hsplit : a.nodes = a.nodes.take (a.nodes.length - 1 - p.node) ++
      a.nodes[a.nodes.length - 1 - p.node] :: a.nodes.drop (a.nodes.length - 1 - p.node + 1) := by
    rw [List.getElem_cons_drop, List.take_append_drop]
  have hlen : (a.nodes.drop (a.nodes.length - 1 - p.node + 1)).length = p.node := by
    rw [List.length_drop]; omega
  exact ⟨_, rewind_eq hsplit hlen.symm hok.pos_le,
    (inv_cons rfl).2 ⟨h.al_pos, hok, fun x hx => h.nodes x (List.mem_of_mem_drop hx)⟩, rfl, congrArg (· + 1) hlen⟩

theorem inv_realloc (g : Nat → Nat) (a : Arena) (p : Addr) (oldSize newSize : Nat) (h : Inv a)
    (hlive : ∀ hd tl, a.nodes = hd :: tl → p.node = tl.length → ⟨p.off, oldSize⟩ ∈ hd.blocks) :
    Inv (realloc g a p oldSize newSize).arena := by
  obtain ⟨hd, tl, hnodes, hok, htl⟩ := h.exists_cons
  rw [realloc_eq g hnodes]
  split
  · rename_i hc
    exact inv_alloc g _ newSize ((inv_cons rfl).2 ⟨h.al_pos, hok.cut (hlive hd tl hnodes hc.1), htl⟩)
  · exact inv_forget (inv_alloc g a newSize h) p

/-- `realloc` copies nothing when the block stays where it is, otherwise exactly `min old new` bytes from the old block
to the start of the new one -/
theorem realloc_copy (g : Nat → Nat) (a : Arena) (p : Addr) (oldSize newSize : Nat) (h : Inv a)
    (hlive : ∀ hd tl, a.nodes = hd :: tl → p.node = tl.length → ⟨p.off, oldSize⟩ ∈ hd.blocks) :
    let r := realloc g a p oldSize newSize
    (r.copy = none → r.addr = p) ∧
    (∀ s d l, r.copy = some (s, d, l) → s = p ∧ d = r.addr ∧ l = min oldSize newSize) := by
  obtain ⟨hd, tl, hnodes, hok, -⟩ := h.exists_cons
  intro r
  simp only [r, realloc_eq g hnodes]
  split
  · rename_i hc
    rcases alloc_cases g (a := { a with nodes := hd.cut p.off :: tl }) rfl newSize with ⟨_, e⟩ | ⟨hbig, cap, _, e⟩ <;> simp only [e]
    · have hq : (⟨tl.length, p.off⟩ : Addr) = p := by rw [← hc.1]
      simp [hq]
    · -- a new node was needed: then the new size exceeds the old one
      have hne : (⟨tl.length + 1, 0⟩ : Addr) ≠ p := fun e => by have := congrArg Addr.node e; simp only [] at this; omega
      have : oldSize ≤ newSize := Nat.le_of_not_lt fun hlt => by
        have := roundUp_mono newSize oldSize a.align (Nat.le_of_lt hlt)
        have := hok.pos_le
        simp only [] at hbig
        omega
      simp only [hne, if_false, reduceCtorEq, false_imp_iff, Option.some.injEq, Prod.mk.injEq, true_and]
      rintro s d l ⟨rfl, rfl, rfl⟩
      exact ⟨rfl, rfl, by omega⟩
  · simp

/-! non-vacuity: a three-node arena with live blocks satisfies the invariant -/
example : Inv { align := 16, maxSize := 64, nodes :=
    [ { cap := 64, pos := 32, blocks := [⟨16, 10⟩, ⟨0, 16⟩] },
      { cap := 48, pos := 48, blocks := [⟨0, 40⟩] },
      { cap := 32, pos := 32, blocks := [⟨16, 1⟩, ⟨0, 3⟩] } ] } := by
  refine ⟨by decide, by simp, ?_⟩
  intro n hn
  simp only [List.mem_cons, List.mem_nil_iff, or_false] at hn
  rcases hn with e | e | e <;> subst e <;> exact ⟨by decide, by decide, by simp [BlocksOk, roundUp]⟩

/-- node sizing: a request above `maxSize` gets a node that is big enough, and growth beyond `maxSize` records what
was obtained -/
example : (alloc (fun c => 2 * c) (new 16 16 32) 100).1.nodes.head?.map (·.cap) = some 112 := by decide
example : (alloc (fun c => 2 * c) (new 64 16 100) 80).1.nodes.head?.map (·.cap) = some 100 := by decide

/-! `gp_scope_defer` keeps its entries in blocks it allocates from the scope's own arena, next to the caller's blocks.
That block is exclusive by `alloc_fresh`; what remains is that every entry is written inside it, for any number of defers. -/

theorem DeferStack.inv_init (elem : Nat) : ({} : DeferStack).Inv elem := by simp [DeferStack.Inv]

theorem DeferStack.push_inv (d : DeferStack) (hdr elem : Nat) (h : d.Inv elem) : (d.push hdr elem).next.Inv elem := by
  unfold DeferStack.Inv DeferStack.push at *
  split
  · simp
  · split
    · exact ⟨by simp only; omega, rfl⟩
    · exact ⟨by simp only; omega, h.2⟩

/-- the entry is written inside the block that holds the entries; a growth copies no more than the old block held and
no more than the new one takes -/
theorem DeferStack.push_inside (d : DeferStack) (hdr elem : Nat) (h : d.Inv elem) :
    (d.push hdr elem).writeOff + elem ≤ (d.push hdr elem).next.room ∧
    (d.push hdr elem).copied ≤ d.room ∧ (d.push hdr elem).copied ≤ (d.push hdr elem).next.room := by
  obtain ⟨h1, h2⟩ := h
  have hs : ∀ k, k * elem + elem = (k + 1) * elem := fun k => (Nat.succ_mul k elem).symm
  unfold DeferStack.push
  split
  · exact ⟨by simp only; omega, Nat.zero_le _, Nat.zero_le _⟩
  · split
    · rename_i hl
      simp only [hs, h2, hl]
      exact ⟨Nat.mul_le_mul_right _ (by omega), Nat.le_refl _, Nat.mul_le_mul_right _ (by omega)⟩
    · simp only [hs, h2]
      exact ⟨Nat.mul_le_mul_right _ (by omega), Nat.zero_le _, Nat.zero_le _⟩

/-- a request covers the room for the entries of the block it asks for (the first one also the header) -/
theorem DeferStack.push_request (d : DeferStack) (hdr elem : Nat) (n : Nat) (h : (d.push hdr elem).request = some n) :
    (d.push hdr elem).next.room ≤ n := by
  unfold DeferStack.push at *
  split
  · rename_i hc; simp [hc] at h; simp; omega
  · rename_i hc
    split
    · rename_i hl; simp [hc, hl] at h; simp; omega
    · rename_i hl; simp [hc, hl] at h

theorem DeferStack.reachable_inv (hdr elem : Nat) (n : Nat) :
    ((List.range n).foldl (fun d _ => (d.push hdr elem).next) ({} : DeferStack)).Inv elem :=
  List.foldlRecOn (motive := (·.Inv elem)) _ _ (DeferStack.inv_init elem) fun d h _ _ => DeferStack.push_inv d hdr elem h

/-- the fifth defer grows the stack: 128 bytes for 8 entries, 64 copied, the entry written at offset 64 -/
example : let d4 := (List.range 4).foldl (fun d _ => (d.push 16 16).next) ({} : DeferStack)
    (d4.push 16 16).request = some 128 ∧ (d4.push 16 16).copied = 64 ∧ (d4.push 16 16).writeOff = 64 := by decide

end Gpc.Arena
