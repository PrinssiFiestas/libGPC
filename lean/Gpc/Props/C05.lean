import Gpc.Model.Map
import Gpc.Proofs.Map
/-!
# C05 — hash maps behave as dictionaries: no key ever affects another key

The dictionary laws for `put` / `get` / `remove` under the invariant `Inv` (tree shape, depth bound, at most one element
per key), lifted to every history, with the destructor log characterised exactly.  Keys are arbitrary naturals, so any
128-bit key set, however adversarial, is covered.
-/
namespace Gpc.Map

structure Inv (m : Map) : Prop where
  tree : TreeOk m.cells
  depth : DepthOk m.cells m.depth
  uniq : ∀ k, (hitList m.width0 m.cells (m.depth + 1) [] k 0).length ≤ 1

/-- the element stored under `k`, if any: the first found along `k`'s walk -/
def abs (m : Map) (k : Nat) : Option Nat := (hitList m.width0 m.cells (m.depth + 1) [] k 0).head?

theorem inv_new (capacity : Nat) : Inv (new capacity) := by
  refine ⟨?_, ?_, ?_⟩
  · intro p q _ _ _; rfl
  · intro p hp; exact absurd rfl hp
  · intro k; simp [new, hitList]

theorem abs_new (capacity k : Nat) : abs (new capacity) k = none := by
  simp [abs, new, hitList]

theorem get_eq_abs (m : Map) (h : Inv m) (k : Nat) : get m k = some (abs m k) := by
  unfold get abs
  exact getLoop_eq m.width0 m.cells m.depth h.depth (m.depth + 1) [] k 0 rfl (by omega) (by omega)

/-- what `Changes` at the root means for the map `m'` that holds the new cells -/
theorem Inv.changes {m m' : Map} (h : Inv m) {k : Nat} {old new : List Nat} (hw : m'.width0 = m.width0)
    (hc : Changes m.width0 m.cells m'.cells [] k 0 (m'.depth + 1) old new) (ht : TreeOk m'.cells)
    (hd : DepthOk m'.cells m'.depth) (hD : m.depth ≤ m'.depth) (hn : old.length ≤ 1 → new.length ≤ 1) :
    Inv m' ∧ old = (abs m k).toList ∧ abs m' k = new.head? ∧ ∀ k', k' ≠ k → abs m' k' = abs m k' := by
  have hfuel : ∀ k', hitList m.width0 m.cells (m'.depth + 1) [] k' 0 = hitList m.width0 m.cells (m.depth + 1) [] k' 0 :=
    fun k' => hitList_fuel m.width0 m.cells m.depth h.depth _ _ [] k' 0 rfl (by omega) (by omega)
  have hother : ∀ k', k' ≠ k →
      hitList m.width0 m'.cells (m'.depth + 1) [] k' 0 = hitList m.width0 m.cells (m.depth + 1) [] k' 0 :=
    fun k' hk => (hc.other k' hk _).trans (hfuel k')
  have hold : hitList m.width0 m.cells (m.depth + 1) [] k 0 = old := (hfuel k).symm.trans hc.old_eq
  have hu := h.uniq k
  rw [hold] at hu
  simp only [abs, hw]
  refine ⟨⟨ht, hd, fun k' => ?_⟩, ?_, congrArg List.head? hc.new_eq, fun k' hk => congrArg List.head? (hother k' hk)⟩
  · rw [hw]
    by_cases hk : k' = k
    · rw [hk, hc.new_eq]; exact hn hu
    · rw [hother k' hk]; exact h.uniq k'
  · rw [hold]
    match old, hu with
    | [], _ => rfl
    | [_], _ => rfl

/-- `put k e` succeeds; afterwards `k` holds `e`, every other key holds what it held before, and exactly the element
previously held by `k` (if any) was handed to the destructor -/
theorem put_spec (m : Map) (h : Inv m) (k e : Nat) :
    ∃ m', put m k e = some m' ∧ Inv m' ∧ abs m' k = some e ∧ (∀ k', k' ≠ k → abs m' k' = abs m k') ∧
      m'.log = m.log ++ (abs m k).toList ∧ m'.width0 = m.width0 := by
  obtain ⟨cells', log', old, hput, ht', hd', hc, hlog⟩ := putLoop_spec (width0 := m.width0) (ks := k) (d := 0)
    (m.depth + 2) e m.log m.depth h.tree h.depth (Or.inl rfl) rfl (Nat.zero_le _) (by omega)
  obtain ⟨hi, hold, ha, ho⟩ := h.changes (m' := { m with cells := cells', log := log', depth := m.depth + 1 }) rfl
    hc ht' hd' (Nat.le_succ _) (fun hl => by rw [List.length_cons, List.length_tail]; omega)
  exact ⟨_, by rw [put, hput], hi, ha, ho, by rw [hlog, hold, Option.head?_toList], rfl⟩

/-- `remove k` succeeds and reports whether `k` was present; afterwards `k` holds nothing, every other key holds what it
held before, and exactly the removed element was handed to the destructor -/
theorem remove_spec (m : Map) (h : Inv m) (k : Nat) :
    ∃ b m', remove m k = some (b, m') ∧ Inv m' ∧ abs m' k = none ∧ (∀ k', k' ≠ k → abs m' k' = abs m k') ∧
      b = (abs m k).isSome ∧ m'.log = m.log ++ (abs m k).toList ∧ m'.width0 = m.width0 := by
  obtain ⟨b, cells', log', old, hrm, ht', hd', hc, hlog, hb⟩ := removeLoop_spec (width0 := m.width0) (path := [])
    (ks := k) (d := 0) (m.depth + 1) m.log m.depth h.tree h.depth rfl (by omega) (by omega)
  obtain ⟨hi, hold, ha, ho⟩ := h.changes (m' := { m with cells := cells', log := log' }) rfl
    hc ht' hd' (Nat.le_refl _) (fun hl => by rw [List.length_tail]; omega)
  refine ⟨b, _, by rw [remove, hrm], hi, ?_, ho, ?_, by rw [hlog, hold, Option.head?_toList], rfl⟩
  · rw [ha, hold]; cases abs m k <;> rfl
  · rw [hb, hold]; cases abs m k <;> rfl

inductive Op where
  | put (k e : Nat)
  | remove (k : Nat)
deriving DecidableEq, Repr

/-- the dictionary specification: a function from keys to elements and the destructor log -/
def specStep (s : (Nat → Option Nat) × List Nat) : Op → (Nat → Option Nat) × List Nat
  | .put k e => (fun k' => if k' = k then some e else s.1 k', s.2 ++ (s.1 k).toList)
  | .remove k => (fun k' => if k' = k then none else s.1 k', s.2 ++ (s.1 k).toList)

def mapStep (m : Map) : Op → Option Map
  | .put k e => put m k e
  | .remove k => (remove m k).map (·.2)

def runOps : Map → List Op → Option Map
  | m, [] => some m
  | m, op :: ops => (mapStep m op).bind fun m' => runOps m' ops

theorem mapStep_refines (m : Map) (hi : Inv m) (op : Op) :
    ∃ m', mapStep m op = some m' ∧ Inv m' ∧ (∀ k, abs m' k = (specStep (abs m, m.log) op).1 k) ∧
      m'.log = (specStep (abs m, m.log) op).2 := by
  cases op with
  | put k e =>
    obtain ⟨m', h1, hi', ha, hb, hc, _⟩ := put_spec m hi k e
    exact ⟨m', h1, hi', fun k' => by by_cases hk : k' = k <;> simp [specStep, hk, ha, hb], hc⟩
  | remove k =>
    obtain ⟨b, m', h1, hi', ha, hb, _, hc, _⟩ := remove_spec m hi k
    exact ⟨m', by simp [mapStep, h1], hi', fun k' => by by_cases hk : k' = k <;> simp [specStep, hk, ha, hb], hc⟩

/-- after any history of puts and removes (any keys, re-puts, removes of absent keys) the map holds for every key exactly
what the dictionary holds, `get` returns it, and the destructor log equals the dictionary's (that each `remove` on the
way reported presence correctly is `remove_spec`) -/
theorem history_refines (m : Map) (hi : Inv m) (s : (Nat → Option Nat) × List Nat)
    (habs : ∀ k, abs m k = s.1 k) (hlog : m.log = s.2) (ops : List Op) :
    ∃ m', runOps m ops = some m' ∧ Inv m' ∧ (∀ k, abs m' k = (ops.foldl specStep s).1 k) ∧
      (∀ k, get m' k = some ((ops.foldl specStep s).1 k)) ∧ m'.log = (ops.foldl specStep s).2 := by
  induction ops generalizing m s with
  | nil => exact ⟨m, rfl, hi, habs, fun k => by rw [get_eq_abs m hi, habs]; rfl, hlog⟩
  | cons op ops ih =>
    obtain ⟨m1, h1, hi1, ha, hl⟩ := mapStep_refines m hi op
    obtain rfl : (abs m, m.log) = s := Prod.ext (funext habs) hlog
    obtain ⟨m', r⟩ := ih m1 hi1 _ ha hl
    exact ⟨m', by simpa [runOps, h1] using r⟩

theorem history_refines_new (capacity : Nat) (ops : List Op) :
    ∃ m', runOps (new capacity) ops = some m' ∧ Inv m' ∧
      (∀ k, get m' k = some ((ops.foldl specStep (fun _ => none, [])).1 k)) ∧
      m'.log = (ops.foldl specStep (fun _ => none, [])).2 := by
  obtain ⟨m', r1, r2, _, r4, r5⟩ := history_refines (new capacity) (inv_new capacity) (fun _ => none, [])
    (fun k => abs_new capacity k) rfl ops
  exact ⟨m', r1, r2, r4, r5⟩

/-- ledger invariant of the dictionary specification, `puts` = the elements put so far -/
structure Ledger (puts : List Nat) (s : (Nat → Option Nat) × List Nat) : Prop where
  live_put : ∀ k e, s.1 k = some e → e ∈ puts
  live_not_destroyed : ∀ k e, s.1 k = some e → e ∉ s.2
  log_put : ∀ e, e ∈ s.2 → e ∈ puts
  log_once : s.2.Pairwise (· ≠ ·)
  inj : ∀ k k' e, s.1 k = some e → s.1 k' = some e → k = k'
  accounted : ∀ e, e ∈ puts → e ∈ s.2 ∨ ∃ k, s.1 k = some e

/-- both operations overwrite what one key holds and hand what it held to the destructor -/
theorem Ledger.set {puts : List Nat} {s : (Nat → Option Nat) × List Nat} (h : Ledger puts s) (k : Nat) (v : Option Nat)
    (hfresh : ∀ e, v = some e → e ∉ puts) :
    Ledger (puts ++ v.toList) (fun k' => if k' = k then v else s.1 k', s.2 ++ (s.1 k).toList) := by
  refine ⟨?_, ?_, ?_, ?_, ?_, ?_⟩ <;> simp only [List.mem_append, Option.mem_toList, List.pairwise_append]
  · intro k' e' hk
    split at hk
    · exact Or.inr hk
    · exact Or.inl (h.live_put k' e' hk)
  · rintro k' e' hk (hm | hm) <;> split at hk
    · exact hfresh e' hk (h.log_put e' hm)
    · exact h.live_not_destroyed k' e' hk hm
    · exact hfresh e' hk (h.live_put k e' hm)
    · rename_i hne; exact hne (h.inj k' k e' hk hm)
  · exact fun e hm => Or.inl (hm.elim (h.log_put e) (h.live_put k e))
  · exact ⟨h.log_once, by cases s.1 k <;> simp, fun a ha b hb e => h.live_not_destroyed k b hb (e ▸ ha)⟩
  · intro k1 k2 e a1 a2
    split at a1 <;> split at a2
    · simp [*]
    · exact absurd (h.live_put k2 e a2) (hfresh e a1)
    · exact absurd (h.live_put k1 e a1) (hfresh e a2)
    · exact h.inj k1 k2 e a1 a2
  · rintro e (hm | hm)
    · rcases h.accounted e hm with hl | ⟨k', hk'⟩
      · exact Or.inl (Or.inl hl)
      · by_cases hkk : k' = k
        · exact Or.inl (Or.inr (hkk ▸ hk'))
        · exact Or.inr ⟨k', by simp [hkk, hk']⟩
    · exact Or.inr ⟨k, by simp [hm]⟩

/-- destructor discipline along every history in which each `put` stores a distinct element: every element handed to the
destructor was put, none twice, never one that is still retrievable, and every element put is either still retrievable
or was destroyed (what `gp_map_delete_elems` does with those still retrievable is not modelled) -/
theorem destroy_once (ops : List Op) (puts : List Nat) (s : (Nat → Option Nat) × List Nat)
    (h : Ledger puts s)
    (hdistinct : (puts ++ ops.filterMap fun o => match o with | .put _ e => some e | _ => none).Pairwise (· ≠ ·)) :
    Ledger (puts ++ ops.filterMap fun o => match o with | .put _ e => some e | _ => none) (ops.foldl specStep s) := by
  induction ops generalizing puts s with
  | nil => simpa using h
  | cons op ops ih =>
    cases op with
    | put k e =>
      simp only [List.filterMap_cons, List.foldl_cons] at hdistinct ⊢
      have hfresh : e ∉ puts := fun hm => (List.pairwise_append.1 hdistinct).2.2 e hm e (by simp) rfl
      simpa using ih (puts ++ [e]) (specStep s (.put k e)) (h.set k (some e) (by simpa using hfresh)) (by simpa using hdistinct)
    | remove k =>
      simp only [List.filterMap_cons, List.foldl_cons] at hdistinct ⊢
      exact ih puts (specStep s (.remove k)) (by simpa [specStep] using h.set k none (by simp)) hdistinct

theorem ledger_empty : Ledger [] (fun _ => none, []) :=
  ⟨nofun, nofun, nofun, .nil, nofun, nofun⟩

/-! non-vacuity: keys 3 and 11 collide in the low 3 bits of an 8-slot map -/
example : ((put (new 8) 3 1).bind fun m => get m 11) = some none := by decide
example : ((put (new 8) 3 1).bind fun m => (put m 3 2).bind fun m => get m 3) = some (some 2) := by decide
example : ((put (new 8) 3 1).bind fun m => (put m 11 2).bind fun m => (remove m 3).bind fun r => get r.2 11)
    = some (some 2) := by decide

end Gpc.Map
