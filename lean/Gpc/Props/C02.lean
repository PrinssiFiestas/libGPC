import Gpc.Model.Scope
import Gpc.Proofs.Scope
/-!
# C02 — scopes end exactly what was begun after them; defers run once, LIFO; any depth

Refinement of the scope factory (pointer arithmetic over an arena of 64-byte records, parent pointers, rewind) to a plain
stack of scopes, for every depth: `Rel` carries the node structure of the factory arena, which is what keeps
`gp_last_scope_of` meaningful after the registry has grown past one node and shrunk again.
-/
namespace Gpc.Scope
open Gpc.Arena

structure AScope where
  id : Nat
  defers : List Nat
deriving DecidableEq, Repr

abbrev Stack := List AScope        -- top (innermost) first

/-- ending the scopes `popped` (innermost first): each one's deferred calls in LIFO order, then its memory is released -/
def specEvents (popped : List AScope) : List Ev :=
  popped.flatMap fun s => s.defers.reverse.map Ev.call ++ [Ev.release s.id]

def specBegin (stk : Stack) (id : Nat) : Stack := ⟨id, []⟩ :: stk
/-- end the scope at depth `i` (0 = innermost): it and everything begun after it -/
def specEnd (stk : Stack) (i : Nat) : Stack × List Ev := (stk.drop (i + 1), specEvents (stk.take (i + 1)))
def specDefer : Stack → Nat → Nat → Stack
  | [], _, _ => []
  | s :: ss, 0, tag => { s with defers := s.defers ++ [tag] } :: ss
  | s :: ss, i + 1, tag => s :: specDefer ss i tag

/-- parent chain in record memory, top first -/
def Chain (mem : Addr → Option Rec) : List Addr → Stack → Prop
  | [], [] => True
  | a :: as, s :: ss => mem a = some ⟨s.id, as.head?, s.defers⟩ ∧ Chain mem as ss
  | _, _ => False

/-- the factory `f` represents the stack `stk`, `as` being the addresses of the live scope records (both top first) -/
structure Rel (f : Factory) (as : List Addr) (stk : Stack) : Prop where
  addrs : recAddrs f.arena.nodes = as ++ [selfAddr]
  chain : Chain f.mem as stk
  nodes : NodesOk f.arena

theorem Chain.eq_nil {mem : Addr → Option Rec} {stk : Stack} (h : Chain mem [] stk) : stk = [] := by
  cases stk with
  | nil => rfl
  | cons _ _ => exact h.elim

theorem Chain.length {mem : Addr → Option Rec} {as : List Addr} {stk : Stack} (h : Chain mem as stk) :
    as.length = stk.length := by
  fun_induction Chain mem as stk with
  | case1 => rfl
  | case2 a as s ss ih => rw [List.length_cons, List.length_cons, ih h.2]
  | case3 => exact h.elim

theorem Chain.frame {mem : Addr → Option Rec} {as : List Addr} {stk : Stack} (h : Chain mem as stk)
    (p : Addr) (r : Rec) (hp : ∀ a ∈ as, a ≠ p) : Chain (upd mem p r) as stk := by
  fun_induction Chain mem as stk with
  | case1 => trivial
  | case2 a as s ss ih =>
    exact ⟨(upd_other _ _ (hp a List.mem_cons_self)).trans h.1, ih h.2 fun x hx => hp x (List.mem_cons_of_mem _ hx)⟩
  | case3 => exact h.elim

theorem Chain.drop {mem : Addr → Option Rec} {as : List Addr} {stk : Stack} (h : Chain mem as stk) (k : Nat) :
    Chain mem (as.drop k) (stk.drop k) := by
  fun_induction Chain mem as stk generalizing k with
  | case1 => rw [List.drop_nil, List.drop_nil]; trivial
  | case2 a as s ss ih =>
    cases k with
    | zero => exact h
    | succ k => exact ih h.2 k
  | case3 => exact h.elim

theorem newFactory_nodes : newFactory.arena = ⟨16, 2 ^ 15, [⟨4160, 64, [⟨0, 64⟩]⟩]⟩ := by decide

theorem rel_new : Rel newFactory [] [] := by
  refine ⟨?_, trivial, ?_⟩
  · rw [newFactory_nodes]; decide
  · rw [newFactory_nodes]
    refine ⟨rfl, rfl, by simp, ?_⟩
    intro n hn
    simp only [List.mem_singleton] at hn
    subst hn
    decide

theorem Rel.nodup {f : Factory} {as : List Addr} {stk : Stack} (h : Rel f as stk) : (as ++ [selfAddr]).Nodup :=
  h.addrs ▸ recAddrs_nodup _

theorem Rel.last {f : Factory} {as : List Addr} {stk : Stack} (h : Rel f as stk) :
    lastScopeOf f = some (as.headD selfAddr) := by
  rw [lastScopeOf_eq f h.nodes, h.addrs]
  cases as <;> rfl

theorem Rel.self_not_mem {f : Factory} {as : List Addr} {stk : Stack} (h : Rel f as stk) : selfAddr ∉ as :=
  fun hm => (List.nodup_append.1 h.nodup).2.2 _ hm _ (List.mem_singleton_self _) rfl

/-- what `gp_begin` stores as parent and `gp_last_scope` returns: the innermost live scope, if any -/
theorem Rel.parent {f : Factory} {as : List Addr} {stk : Stack} (h : Rel f as stk) :
    (if as.headD selfAddr = selfAddr then none else some (as.headD selfAddr)) = as.head? := by
  cases as with
  | nil => rfl
  | cons a rest => exact if_neg fun (e : a = selfAddr) => h.self_not_mem (e ▸ List.mem_cons_self)

/-- `gp_last_scope` returns the fallback exactly when there is no live scope, otherwise the innermost live scope:
never a garbage pointer -/
theorem last_scope_spec (f : Factory) (as : List Addr) (stk : Stack) (h : Rel f as stk) :
    lastScope f = some as.head? := by
  rw [← h.parent, lastScope, h.last]
  simp only []
  split <;> rfl

theorem rel_begin (f : Factory) (as : List Addr) (stk : Stack) (h : Rel f as stk) :
    ∃ f' p, begin f = some (f', p) ∧ Rel f' (p :: as) (specBegin stk f.nextId) ∧ f'.nextId = f.nextId + 1 := by
  unfold begin
  rw [h.last]
  simp only [h.parent]
  obtain ⟨hg1, hg2⟩ := alloc_geometry f.arena h.nodes
  generalize alloc g f.arena recSize = al at hg1 hg2
  obtain ⟨a', p⟩ := al
  have haddrs : recAddrs a'.nodes = p :: as ++ [selfAddr] := by rw [hg1, h.addrs]; rfl
  -- the new record heads the chain; older records are untouched because `p` is fresh
  have hfresh : p ∉ as := fun hm => (List.nodup_cons.1 (haddrs ▸ recAddrs_nodup a'.nodes)).1 (List.mem_append_left _ hm)
  exact ⟨_, p, rfl, ⟨haddrs, ⟨upd_same _ _ _, h.chain.frame p _ (fun a ha e => hfresh (e ▸ ha))⟩, hg2⟩, rfl⟩

theorem Chain.defer {mem : Addr → Option Rec} {as : List Addr} {stk : Stack} (h : Chain mem as stk) (hd : as.Nodup)
    (i : Nat) (hi : i < as.length) (tag : Nat) :
    ∃ r, mem (as[i]) = some r ∧
      Chain (upd mem (as[i]) { r with defers := r.defers ++ [tag] }) as (specDefer stk i tag) := by
  fun_induction Chain mem as stk generalizing i with
  | case1 => simp at hi
  | case2 a as s ss ih =>
    obtain ⟨hna, hd'⟩ := List.nodup_cons.1 hd
    cases i with
    | zero => exact ⟨_, h.1, upd_same _ _ _, h.2.frame a _ (fun x hx e => hna (e ▸ hx))⟩
    | succ j =>
      have hj : j < as.length := by simpa using hi
      obtain ⟨r, hr, hc⟩ := ih h.2 hd' j hj
      have hne : a ≠ as[j] := fun e => hna (e ▸ List.getElem_mem _)
      exact ⟨r, hr, (upd_other _ _ hne).trans h.1, hc⟩
  | case3 => exact h.elim

/-- deferring on the live scope at depth `i` appends the call to that scope only -/
theorem rel_defer (f : Factory) (as : List Addr) (stk : Stack) (h : Rel f as stk) (i : Nat)
    (hi : i < as.length) (tag : Nat) :
    ∃ f', defer f (as[i]) tag = some f' ∧ Rel f' as (specDefer stk i tag) := by
  obtain ⟨r, hr, hc⟩ := h.chain.defer (List.nodup_append.1 h.nodup).1 i hi tag
  unfold Gpc.Scope.defer
  rw [hr]
  exact ⟨_, rfl, ⟨h.addrs, hc, h.nodes⟩⟩

theorem specEvents_cons (s : AScope) (ss : List AScope) : specEvents (s :: ss) = specEvents [s] ++ specEvents ss := by
  simp [specEvents]

theorem endScopes_cons {mem : Addr → Option Rec} {a : Addr} {as : List Addr} {s : AScope} {ss : Stack}
    (h : Chain mem (a :: as) (s :: ss)) (fuel : Nat) (stop : Option Addr) :
    endScopes mem (fuel + 1) a stop =
      match as with
      | [] => some (specEvents [s])
      | b :: _ => if some a = stop then some (specEvents [s]) else (endScopes mem fuel b stop).map (specEvents [s] ++ ·) := by
  simp only [endScopes, h.1]
  cases as with
  | nil => simp [specEvents]
  | cons b bs => by_cases e : some a = stop <;> simp [specEvents, e]

/-- `gp_end_scopes` from the innermost record walks the parent chain and ends the scopes `0..i`, where `i` is the
first depth at which it meets `stop`, or the outermost scope if it never does -/
theorem endScopes_chain {mem : Addr → Option Rec} {stop : Option Addr} {as : List Addr} {stk : Stack}
    (h : Chain mem as stk) (i : Nat) (hi : i < as.length) (hpre : ∀ j (hj : j < i), some as[j] ≠ stop)
    (hstop : stop = some as[i] ∨ i + 1 = as.length) (fuel : Nat) (hf : i < fuel) :
    endScopes mem fuel (as[0]'(by omega)) stop = some (specEvents (stk.take (i + 1))) := by
  fun_induction Chain mem as stk generalizing i fuel with
  | case1 => simp at hi
  | case2 a as s ss ih =>
    cases fuel with
    | zero => omega
    | succ fu =>
      rw [List.getElem_cons_zero, endScopes_cons h, List.take_succ_cons]
      cases i with
      | zero =>
        -- the walk ends here: there is no parent, or this record is `stop`
        cases as with
        | nil => rfl
        | cons b bs => exact if_pos (hstop.resolve_right (by simp)).symm
      | succ j =>
        -- this record is not `stop` (`hpre 0`), so the walk goes on from its parent, at depth `j` of the rest
        cases as with
        | nil => simp at hi
        | cons b bs =>
          have := ih h.2 j (by simpa using hi) (fun k hk => hpre (k + 1) (by omega))
            (hstop.imp_right fun e => by simpa using e) fu (by omega)
          have h0 : some a ≠ stop := hpre 0 (by omega)
          rw [List.getElem_cons_zero] at this
          simp only [if_neg h0, this, Option.map_some, ← specEvents_cons]
  | case3 => exact h.elim

/-- ending the live scope at depth `i` ends exactly the scopes `0..i` (it and every scope begun after it), innermost
first, each one's deferred calls run once in LIFO order before its memory is released; the older scopes stay intact -/
theorem rel_end (f : Factory) (as : List Addr) (stk : Stack) (h : Rel f as stk) (i : Nat)
    (hi : i < as.length) (fuel : Nat) (hf : i < fuel) :
    ∃ f', endScope f (as[i]) fuel = some (f', (specEnd stk i).2) ∧
      Rel f' (as.drop (i + 1)) (specEnd stk i).1 ∧ f'.nextId = f.nextId := by
  have hnd : as.Nodup := (List.nodup_append.1 h.nodup).1
  have hlen : (recAddrs f.arena.nodes).length = as.length + 1 := by rw [h.addrs]; simp
  have hidx : (recAddrs f.arena.nodes)[i]'(by omega) = as[i] := by
    simp only [h.addrs]; rw [List.getElem_append_left hi]
  obtain ⟨a', h1, h2, h3⟩ := rewind_geometry f.arena h.nodes i (by omega)
  have hhead : as.headD selfAddr = as[0]'(by omega) := by cases as <;> simp at hi ⊢
  rw [hidx] at h1
  simp only [endScope, h.last, hhead, h1, endScopes_chain h.chain i hi
    (fun j hj e => List.pairwise_iff_getElem.1 hnd j i (by omega) hi hj (Option.some.inj e)) (Or.inl rfl) fuel hf]
  refine ⟨_, rfl, ⟨?_, h.chain.drop (i + 1), h2⟩, rfl⟩
  simp only []
  rw [h3, h.addrs, List.drop_append_of_le_length (by omega)]

/-- a thread that exits with live scopes ends all of them, innermost first, each exactly once -/
theorem rel_thread_exit (f : Factory) (as : List Addr) (stk : Stack) (h : Rel f as stk) (fuel : Nat)
    (hf : as.length ≤ fuel) : threadExit f fuel = some (specEvents stk) := by
  unfold threadExit
  rw [h.last]
  cases as with
  | nil =>
    rw [h.chain.eq_nil]
    rfl
  | cons a rest =>
    have hns : a ≠ selfAddr := fun e => h.self_not_mem (e ▸ List.mem_cons_self)
    have := endScopes_chain (stop := none) h.chain rest.length (by simp) (by simp) (Or.inr rfl) fuel hf
    rw [List.getElem_cons_zero, show rest.length + 1 = stk.length from h.chain.length, List.take_length] at this
    exact (if_neg hns).trans this

/-- the deferred calls among the events are exactly the ended scopes' defers, scope by scope, each scope's in LIFO order -/
theorem specEvents_calls (popped : List AScope) :
    (specEvents popped).filterMap (fun e => match e with | Ev.call t => some t | _ => none)
      = popped.flatMap (fun s => s.defers.reverse) := by
  induction popped with
  | nil => simp [specEvents]
  | cons s ss ih =>
    simp only [specEvents, List.flatMap_cons, List.filterMap_append] at ih ⊢
    rw [ih]
    simp [List.filterMap_map, Function.comp_def]

/-! non-vacuity: in a fresh factory the last record is the factory itself -/
example : (lastScopeOf newFactory) = some selfAddr := by decide

end Gpc.Scope
