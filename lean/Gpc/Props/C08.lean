import Gpc.Model.Search
import Gpc.Proofs.Search
import Gpc.Proofs.List
/-!
# C08 — search and comparison primitives return the definitional answer

The search functions of the model return `Option …` whose outer `none` means "a byte outside the given
buffers was read"; `reads_in_bounds_*` state that this never happens under the API's preconditions.  The loops
of `findLast` and `findFirstOf` / `findFirstNotOf` read through the checked `rd`; `findFirst`, and `count` which iterates
it, go through the `memmem` contract and fail only for a start beyond the haystack; `equal` and `equalCase` compare
whole lists and have no checked read.
-/
namespace Gpc.Search

/-- smallest index `≥ start` at which the needle occurs; not-found exactly when there is none -/
theorem find_first_spec (h n : Bytes) (start : Nat) (hs : start ≤ h.length) :
    ∃ r, findFirst h n start = some r ∧
      (∀ i, r = some i ↔ (start ≤ i ∧ i ≤ h.length ∧ OccursAt h n i ∧
                          ∀ j, start ≤ j → j < i → ¬ OccursAt h n j)) ∧
      (r = none ↔ ∀ i, start ≤ i → i ≤ h.length → ¬ OccursAt h n i) :=
  ⟨_, if_pos hs, First.iff (fun _ p q => q p) (memmem_drop_sound h n start hs)⟩

/-- largest index at which the (non-empty) needle occurs; not-found exactly when there is none -/
theorem find_last_spec (h n : Bytes) (hn : n ≠ []) :
    ∃ r, findLast h n = some r ∧
      (∀ i, r = some i ↔ (OccursAt h n i ∧ ∀ j, i < j → ¬ OccursAt h n j)) ∧
      (r = none ↔ ∀ i, ¬ OccursAt h n i) := by
  obtain _ | ⟨n0, n⟩ := n
  · exact absurd rfl hn
  -- an occurrence leaves room for the needle behind it
  have hbeyond : ∀ j, OccursAt h (n0 :: n) j → j < h.length - ((n0 :: n).length - 1) := fun j ho => by
    have := occursAt_le_length h (n0 :: n) j hn ho
    simp only [List.length_cons] at this ⊢; omega
  unfold findLast
  simp only
  split
  · rename_i hc
    refine ⟨none, rfl, Last.iff (hi := 0) (fun j _ b => absurd b (Nat.not_lt_zero _)) fun j ho => ?_⟩
    have := hbeyond j ho
    simp only [List.length_cons] at this hc; omega
  · rename_i hc
    simp only [List.length_cons] at hc
    obtain ⟨r, hr, hl⟩ := findLastLoop_spec h n n0 (h.length + 1) (h.length - ((n0 :: n).length - 1))
      (by simp only [List.length_cons]; omega) (by omega)
    exact ⟨r, hr, hl.iff hbeyond⟩

/-- number of suffixes of the haystack that start with the needle -/
def specCount : Bytes → Bytes → Nat
  | [], _ => 0
  | a :: h, n => (if n <+: a :: h then 1 else 0) + specCount h n

theorem specCount_eq_countP (h n : Bytes) :
    specCount h n = (List.range h.length).countP (fun i => decide (OccursAt h n i)) := by
  induction h with
  | nil => simp [specCount]
  | cons a h ih =>
    rw [specCount, List.length_cons, List.range_succ_eq_map, List.countP_cons, List.countP_map, ih]
    have : ((fun i => decide (OccursAt (a :: h) n i)) ∘ Nat.succ) = (fun i => decide (OccursAt h n i)) := by
      funext i; simp [occursAt_cons_succ]
    rw [this]
    simp only [occursAt_zero, decide_eq_true_eq, Nat.add_comm]

theorem specCount_memmem (l n : Bytes) (hn : n ≠ []) :
    specCount l n = match memmem l n with
      | none => 0
      | some k => 1 + specCount (l.drop (k + 1)) n := by
  induction l with
  | nil => simp [specCount, memmem, List.isEmpty_eq_false_iff.2 hn]
  | cons a t ih =>
    simp only [specCount, memmem, List.isPrefixOf_iff_prefix]
    split
    · rfl
    · rw [Nat.zero_add, ih]
      cases memmem t n <;> rfl

theorem countLoop_spec (h n : Bytes) (hn : n ≠ []) (fuel i c : Nat) (hi : i ≤ h.length)
    (hf : h.length - i < fuel) :
    countLoop h n fuel i c = some (c + specCount (h.drop i) n) := by
  induction fuel generalizing i c with
  | zero => omega
  | succ f ih =>
    simp only [countLoop, findFirst, hi, if_true]
    rw [specCount_memmem _ _ hn]
    cases hm : memmem (h.drop i) n with
    | none => rfl
    | some k =>
      have hk := memmem_fits hm hn
      have := List.length_pos_iff.mpr hn
      rw [List.length_drop] at hk
      simp only [Option.map_some]
      rw [ih (k + i + 1) (c + 1) (by omega) (by omega), List.drop_drop, show i + (k + 1) = k + i + 1 by omega,
        Nat.add_assoc]

/-- `count` = the number of positions at which the (non-empty) needle occurs, overlaps included -/
theorem count_spec (h n : Bytes) (hn : n ≠ []) :
    count h n = some ((List.range h.length).countP (fun i => decide (OccursAt h n i))) := by
  unfold count
  rw [countLoop_spec h n hn _ 0 0 (Nat.zero_le _) (by omega), ← specCount_eq_countP]
  simp

/-- with no NUL in the set, the library's test (`c != 0 && strchr(set, c)`) is membership -/
theorem strchrHit_mem (set : Bytes) (hset : ¬ (0 : UInt8) ∈ set) (c : UInt8) :
    (c != 0 && strchrHit set c) = decide (c ∈ set) := by
  by_cases hz : c = 0
  · simp [hz, hset]
  · have : (c == 0) = false := by simpa using hz
    simp [strchrHit, bne, this]

theorem firstOfLoop_spec (h set : Bytes) (want : Bool) (hset : ¬ (0 : UInt8) ∈ set) (fuel i : Nat)
    (hf : h.length - i ≤ fuel) :
    ∃ r, firstOfLoop h set want fuel i = some r ∧
      First (fun k => ∃ c, h[k]? = some c ∧ (decide (c ∈ set)) = want)
        (fun j => ∃ c, h[j]? = some c ∧ (decide (c ∈ set)) ≠ want) (· < h.length) i r := by
  induction fuel generalizing i with
  | zero => exact ⟨none, rfl, fun j a b => by omega⟩
  | succ f ih =>
    simp only [firstOfLoop]
    split
    · rename_i hi
      have hg := List.getElem?_eq_getElem hi
      simp only [rd, hg, strchrHit_mem set hset]
      split
      · rename_i hw
        exact ⟨some i, rfl, First.here hi ⟨_, hg, eq_of_beq hw⟩⟩
      · rename_i hw
        obtain ⟨r, e, hr⟩ := ih (i + 1) (by omega)
        exact ⟨r, e, hr.step ⟨_, hg, fun e => hw (beq_iff_eq.2 e)⟩⟩
    · rename_i hi
      exact ⟨none, rfl, fun j a b => absurd (Nat.lt_of_le_of_lt a b) hi⟩

/-- first position `≥ start` whose byte is a member of the set (not-found iff none) -/
theorem first_of_spec (h set : Bytes) (start : Nat) (hset : ¬ (0 : UInt8) ∈ set) :
    ∃ r, findFirstOf h set start = some r ∧
      (∀ k, r = some k ↔ (start ≤ k ∧ k < h.length ∧ (∃ c, h[k]? = some c ∧ c ∈ set) ∧
          ∀ j, start ≤ j → j < k → ∃ c, h[j]? = some c ∧ ¬ c ∈ set)) ∧
      (r = none ↔ ∀ j, start ≤ j → j < h.length → ∃ c, h[j]? = some c ∧ ¬ c ∈ set) := by
  obtain ⟨r, e, hr⟩ := firstOfLoop_spec h set true hset (h.length - start) start (Nat.le_refl _)
  have H := hr.iff fun _ => getElem?_not_both
  simp only [decide_eq_true_eq] at H
  exact ⟨r, e, H⟩

/-- first position `≥ start` whose byte is not a member of the set (not-found iff none) -/
theorem first_not_of_spec (h set : Bytes) (start : Nat) (hset : ¬ (0 : UInt8) ∈ set) :
    ∃ r, findFirstNotOf h set start = some r ∧
      (∀ k, r = some k ↔ (start ≤ k ∧ k < h.length ∧ (∃ c, h[k]? = some c ∧ ¬ c ∈ set) ∧
          ∀ j, start ≤ j → j < k → ∃ c, h[j]? = some c ∧ c ∈ set)) ∧
      (r = none ↔ ∀ j, start ≤ j → j < h.length → ∃ c, h[j]? = some c ∧ c ∈ set) := by
  obtain ⟨r, e, hr⟩ := firstOfLoop_spec h set false hset (h.length - start) start (Nat.le_refl _)
  have H := hr.iff fun _ => getElem?_not_both
  simp only [decide_eq_false_iff_not, Decidable.not_not] at H
  exact ⟨r, e, H⟩

theorem equal_spec (a b : Bytes) : equal a b = true ↔ a = b := by
  rw [equal, Bool.and_eq_true, beq_iff_eq, beq_iff_eq]
  exact ⟨fun h => h.2, fun h => ⟨congrArg _ h, h⟩⟩

theorem equalCaseLoop_spec (a b : Bytes) (hl : a.length = b.length) :
    equalCaseLoop a b = true ↔ a.map lowerAscii = b.map lowerAscii := by
  induction a generalizing b with
  | nil =>
    obtain rfl := List.length_eq_zero_iff.1 hl.symm
    exact ⟨fun _ => rfl, fun _ => rfl⟩
  | cons x a ih =>
    cases b with
    | nil => simp at hl
    | cons y b =>
      simp only [List.length_cons, Nat.add_right_cancel_iff] at hl
      simp only [equalCaseLoop, List.map_cons, List.cons.injEq]
      by_cases hxy : lowerAscii x = lowerAscii y
      · simp [hxy, ih b hl]
      · simp [hxy]

theorem equal_case_spec (a b : Bytes) : equalCase a b = true ↔ a.map lowerAscii = b.map lowerAscii := by
  unfold equalCase
  split
  · rename_i hl
    refine ⟨(fun e => nomatch e), fun h => absurd ?_ (bne_iff_ne.1 hl)⟩
    simpa only [List.length_map] using congrArg List.length h
  · rename_i hl
    exact equalCaseLoop_spec a b (by simpa using hl)

theorem reads_in_bounds_find_first (h n : Bytes) (start : Nat) (hs : start ≤ h.length) :
    findFirst h n start ≠ none := by simp [findFirst, hs]

theorem reads_in_bounds_find_last (h n : Bytes) (hn : n ≠ []) : findLast h n ≠ none := by
  obtain ⟨r, hr, _⟩ := find_last_spec h n hn; simp [hr]

theorem reads_in_bounds_count (h n : Bytes) (hn : n ≠ []) : count h n ≠ none := by
  simp [count_spec h n hn]

theorem reads_in_bounds_first_of (h set : Bytes) (start : Nat) (hset : ¬ (0 : UInt8) ∈ set) :
    findFirstOf h set start ≠ none ∧ findFirstNotOf h set start ≠ none := by
  obtain ⟨r, hr, _⟩ := first_of_spec h set start hset
  obtain ⟨r', hr', _⟩ := first_not_of_spec h set start hset
  simp [hr, hr']

-- the candidate loop of `gp_bytes_find_last` must not skip a position; overlapping occurrences count
example : findLast [97,97,97,98] [97,97] = some (some 1) := by decide
example : findLast [97,98,97,98,97] [97,98,97] = some (some 2) := by decide
example : count [97,97,97,97] [97,97] = some 3 := by decide
example : findFirstOf [0,1,2] [2] 0 = some (some 2) := by decide

end Gpc.Search
