import Gpc.Proofs.Utf
/-!
# C07 — UTF-8/16/32 conversions are the standard encoding forms and round-trip

The codec on one code point is in `Gpc.Proofs.Utf`; here the two-phase drivers, whose result does not
depend on the capacity the destination happened to have.
-/
namespace Gpc.Utf
open Gpc.Utf8

/-- UTF-8 → UTF-32 yields exactly the scalar values, whatever capacity the destination had -/
theorem utf8_to_utf32_spec (cps : List Nat) (hc : ∀ c ∈ cps, c < 0x110000) (cap : Nat) :
    utf8ToUtf32 cap (cps.flatMap encodeU8) = some cps := by
  unfold utf8ToUtf32
  rw [u32Fast_encoding cps hc cap]
  simp only []
  rw [decodeAll_encoding (cps.drop cap) (fun x hx => hc x (List.mem_of_mem_drop hx)) _ (Nat.le_refl _),
    Option.map_some, List.take_append_drop]

theorem u8Fast_spec (cap len : Nat) (cps : List Nat) :
    ∃ k, (u8Fast cap len cps).1 = (cps.take k).flatMap encodeU8 ∧ (u8Fast cap len cps).2 = cps.drop k
      ∧ len + (u8Fast cap len cps).1.length ≤ max cap len := by
  induction cps generalizing len with
  | nil => exact ⟨0, rfl, rfl, Nat.le_max_right cap len⟩
  | cons c cs ih =>
    simp only [u8Fast]
    split
    · obtain ⟨k, h1, h2, h3⟩ := ih (len + (encodeU8 c).length)
      have hl := encodeU8_length c
      have hp := byteLen_bounds c
      refine ⟨k + 1, ?_, h2, ?_⟩
      · rw [List.take_succ_cons, List.flatMap_cons, ← h1]
      · rw [List.length_append]; omega
    · exact ⟨0, rfl, rfl, Nat.le_max_right cap len⟩

theorem u8Slow_spec (cap len : Nat) (cps : List Nat) (h : len + (cps.map byteLen).sum ≤ cap) :
    u8Slow cap len cps = some (cps.flatMap encodeU8) := by
  induction cps generalizing len with
  | nil => rfl
  | cons c cs ih =>
    rw [List.map_cons, List.sum_cons] at h
    have hl := encodeU8_length c
    rw [u8Slow, if_pos (by omega), ih (len + (encodeU8 c).length) (by omega)]
    rfl

/-- UTF-32 → UTF-8 produces the concatenated encodings for every initial capacity: the checked writes of
the slow loop never fail (the fast loop writes unchecked: `fast_loop_in_bounds`) -/
theorem utf32_to_utf8_spec (cap : Nat) (cps : List Nat) :
    utf32ToUtf8 cap cps = some (cps.flatMap encodeU8) := by
  unfold utf32ToUtf8
  obtain ⟨k, h1, h2, h3⟩ := u8Fast_spec cap 0 cps
  generalize u8Fast cap 0 cps = u at h1 h2 h3
  obtain ⟨o, r⟩ := u
  simp only [] at h1 h2 h3 ⊢
  rw [u8Slow_spec _ _ _ (by omega), h1, h2, Option.map_some, ← List.flatMap_append, List.take_append_drop]

/-- the unchecked writes of the fast loop stay inside the initial capacity -/
theorem fast_loop_in_bounds (cap : Nat) (cps : List Nat) : (u8Fast cap 0 cps).1.length ≤ cap := by
  obtain ⟨_, _, _, h3⟩ := u8Fast_spec cap 0 cps; omega

/-- round trip: valid UTF-8 → UTF-32 → UTF-8 gives the original bytes, for any capacities -/
theorem utf8_utf32_roundtrip (s : Bytes) (h : WellFormed s) (cap cap' : Nat) :
    ∃ cps, utf8ToUtf32 cap s = some cps ∧ (∀ c ∈ cps, IsScalar c) ∧ utf32ToUtf8 cap' cps = some s := by
  obtain ⟨cps, h1, rfl⟩ := wellFormed_is_encoding s h
  exact ⟨cps, utf8_to_utf32_spec cps (fun c hc => (h1 c hc).1) cap, h1, utf32_to_utf8_spec cap' cps⟩

/-- round trip the other way: scalar values → UTF-8 → the same scalar values -/
theorem utf32_utf8_roundtrip (cps : List Nat) (hc : ∀ c ∈ cps, IsScalar c) (cap cap' : Nat) :
    ∃ s, utf32ToUtf8 cap cps = some s ∧ utf8ToUtf32 cap' s = some cps :=
  ⟨_, utf32_to_utf8_spec cap cps, utf8_to_utf32_spec cps (fun c h => (hc c h).1) cap'⟩

/-- the surrogate arithmetic of `gp_utf8_to_utf16` is the UTF-16 encoding form of the Unicode Standard (D91) -/
theorem encodeU16_eq (c : Nat) (hc : c < 0x110000) : encodeU16 c =
    if c < 0x10000 then [c] else [0xD800 + (c - 0x10000) / 1024, 0xDC00 + (c - 0x10000) % 1024] := by
  unfold encodeU16
  split
  · rw [if_pos (by omega)]
  · rw [if_neg (by omega)]
    simp only []
    rw [Nat.shiftRight_eq_div_pow, Nat.and_two_pow_sub_one_eq_mod _ 10, or_tag 54 _ 10 (by omega),
      or_tag 55 _ 10 (Nat.mod_lt _ (by decide))]

/-- the masks `&~ 0xD800`, `&~ 0xDC00` take the tag off a surrogate: `t` is the tag, `m` the mask above bit 10 -/
theorem surrogate_payload (t m v : Nat) (htm : t &&& m = 0) (hv : v < 1024) :
    (t * 1024 + v) &&& (m * 1024 + 1023) = v := by
  have := and_concat_pow 10 t v m 1023 (by omega) (by omega)
  rw [show (2 : Nat) ^ 10 = 1024 from rfl] at this
  rw [this, htm, Nat.zero_mul, Nat.zero_add]
  exact (Nat.and_two_pow_sub_one_eq_mod v 10).trans (Nat.mod_eq_of_lt hv)

theorem joinSurrogates_eq (h l : Nat) (hh : h < 1024) (hl : l < 1024) :
    joinSurrogates (0xD800 + h) (0xDC00 + l) = 0x10000 + h * 1024 + l := by
  unfold joinSurrogates
  have a1 : (0xD800 + h) &&& (0xFFFF - 0xD800) = h := surrogate_payload 54 9 h (by decide) hh
  have a2 : (0xDC00 + l) &&& (0xFFFF - 0xDC00) = l := surrogate_payload 55 8 l (by decide) hl
  rw [a1, a2, Nat.shiftLeft_eq, or_fields h l 10 (by omega)]
  omega

/-- UTF-16 decoding of the UTF-16 encoding gives the scalar value back (all 17 planes) -/
theorem utf16_roundtrip1 (c : Nat) (hc : IsScalar c) (rest : List Nat) (fuel : Nat) :
    decodeU16 (fuel + 2) (encodeU16 c ++ rest) = (decodeU16 (fuel + 1) rest).map (c :: ·) := by
  obtain ⟨hc1, hc2⟩ := hc
  rw [encodeU16_eq c hc1]
  split
  · simp only [List.cons_append, List.nil_append, decodeU16]
    rw [if_pos (by omega)]
  · simp only [List.cons_append, List.nil_append, decodeU16]
    rw [if_neg (by omega), joinSurrogates_eq _ _ (by omega) (Nat.mod_lt _ (by decide)),
      show 0x10000 + (c - 0x10000) / 1024 * 1024 + (c - 0x10000) % 1024 = c by omega]

/-- plane 2 and plane 16 witnesses of the surrogate arithmetic -/
example : encodeU16 0x20000 = [0xD840, 0xDC00] ∧ encodeU16 0x10FFFF = [0xDBFF, 0xDFFF]
    ∧ joinSurrogates 0xD840 0xDC00 = 0x20000 := by decide

end Gpc.Utf
