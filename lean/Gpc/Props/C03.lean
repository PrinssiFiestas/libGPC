import Gpc.Model.Array
import Gpc.Proofs.Array
/-!
# C03 — the dynamic array behaves as a sequence; growth never loses or overruns elements

For every operation, under the API's preconditions (`Inv`, and `CanGrow a need` where it grows): the
checked `memmove`/`memcpy` steps never leave the storage (`= some …`), the invariant is kept, and the
element bytes `bytes a` become exactly the sequence operation's result.
-/
namespace Gpc.Arr

theorem append_spec (a : Arr) (src : Bytes) (n : Nat) (h : Inv a) (hs : src.length = n * a.es)
    (hg : CanGrow a (a.length + n)) :
    ∃ a', append a src n = some a' ∧ Inv a' ∧ bytes a' = bytes a ++ src ∧ a'.length = a.length + n ∧ a'.es = a.es := by
  obtain ⟨hi, hl, hes, hb, hcap⟩ := reserve_spec a (a.length + n) h
  have hfit := hi.fits (hcap hg)
  unfold append
  generalize reserve a (a.length + n) = a1 at *
  rw [hes, Nat.add_mul, ← hs] at hfit
  obtain ⟨d, e, ld, td, -⟩ := memcpyIn_take a1.data (a.length * a.es) src hfit
  simp only [e, Option.map_some]
  refine ⟨_, rfl, hi.update ld (by rw [hl]; exact hcap hg), ?_, by simp only [hl], hes⟩
  simp only [bytes, hl, hes, Nat.add_mul, ← hs, td, hb]

theorem push_spec (a : Arr) (e : Bytes) (h : Inv a) (he : e.length = a.es) (hg : CanGrow a (a.length + 1)) :
    ∃ a', push a e = some a' ∧ Inv a' ∧ bytes a' = bytes a ++ e ∧ a'.length = a.length + 1 ∧ a'.es = a.es :=
  append_spec a e 1 h (by rw [he, Nat.one_mul]) hg

/-- `copy`, `sliceFrom`, `mapFrom` and `filterFrom` each unfold to the term in the first conjunct: the
array is grown to `n` elements, and `m ≤ n` elements written at its start become its content. -/
theorem store_spec (a : Arr) (src : Bytes) (n m : Nat) (h : Inv a) (hs : src.length = m * a.es) (hm : m ≤ n)
    (hg : CanGrow a n) :
    ∃ a', (memcpyIn (reserve a n).data 0 src).map (fun d => { reserve a n with data := d, length := m }) = some a' ∧
      Inv a' ∧ bytes a' = src ∧ a'.length = m ∧ a'.es = a.es := by
  obtain ⟨hi, -, hes, -, hcap⟩ := reserve_spec a n h
  have hfit := hi.fits (Nat.le_trans hm (hcap hg))
  generalize reserve a n = a1 at *
  rw [hes, ← hs] at hfit
  obtain ⟨d, e, ld, td⟩ := write_spec a1.data src hfit
  rw [e]
  rw [hs, ← hes] at td
  exact ⟨_, rfl, hi.update ld (Nat.le_trans hm (hcap hg)), td, rfl, hes⟩

theorem copy_spec (a : Arr) (src : Bytes) (n : Nat) (h : Inv a) (hs : src.length = n * a.es) (hg : CanGrow a n) :
    ∃ a', copy a src n = some a' ∧ Inv a' ∧ bytes a' = src ∧ a'.length = n ∧ a'.es = a.es :=
  store_spec a src n n h hs (Nat.le_refl _) hg

theorem pop_spec (a : Arr) (h : Inv a) (hne : 0 < a.length) :
    ∃ e a', pop a = some (e, a') ∧ Inv a' ∧ bytes a = bytes a' ++ e ∧ e.length = a.es ∧ a'.length = a.length - 1 := by
  have hl : a.length * a.es = (a.length - 1) * a.es + a.es := by
    rw [← Nat.succ_mul, Nat.succ_eq_add_one, Nat.sub_add_cancel hne]
  have hfit : (a.length - 1) * a.es + a.es ≤ a.data.length := hl ▸ h.fits h.len_le
  simp only [pop, Nat.ne_of_gt hne, if_false, hfit, if_true]
  refine ⟨_, _, rfl, h.update rfl (Nat.le_trans (Nat.sub_le _ _) h.len_le), ?_, ?_, rfl⟩
  · simp only [bytes]; rw [hl, List.take_add]
  · rw [List.length_take, List.length_drop]; exact Nat.min_eq_left (Nat.le_sub_of_add_le' hfit)

theorem insert_spec (a : Arr) (pos : Nat) (src : Bytes) (n : Nat) (h : Inv a) (hpos : pos ≤ a.length)
    (hs : src.length = n * a.es) (hg : CanGrow a (a.length + n)) :
    ∃ a', insert a pos src n = some a' ∧ Inv a' ∧
      bytes a' = (bytes a).take (pos * a.es) ++ src ++ (bytes a).drop (pos * a.es) ∧
      a'.length = a.length + n ∧ a'.es = a.es := by
  obtain ⟨hi, hl, hes, hb, hcap⟩ := reserve_spec a (a.length + n) h
  have hfit := hi.fits (hcap hg)
  unfold insert
  generalize reserve a (a.length + n) = a1 at *
  have hPL : pos * a.es ≤ a.length * a.es := Nat.mul_le_mul_right _ hpos
  rw [hes, Nat.add_mul, ← hs] at hfit
  have hk : pos * a.es + src.length + (a.length * a.es - pos * a.es) = a.length * a.es + src.length := by
    rw [Nat.add_right_comm, Nat.add_sub_cancel' hPL]
  obtain ⟨d1, d, e1, e2, ld, td⟩ := splice_spec a1.data src _ (pos * a.es) (pos * a.es) (a.length * a.es) hb
    (Nat.le_refl _) hPL (Nat.le_trans (Nat.le_add_right _ _) hfit) (hk ▸ hfit)
  simp only [Nat.add_mul, Nat.sub_mul, ← hs, e1, e2, Option.map_some]
  refine ⟨_, rfl, hi.update ld (by rw [hl]; exact hcap hg), ?_, by simp only [hl], hes⟩
  rw [← td, hk]
  simp only [bytes, hl, hes, Nat.add_mul, ← hs]

theorem erase_spec (a : Arr) (pos count : Nat) (h : Inv a) (hr : pos + count ≤ a.length) :
    ∃ a', erase a pos count = some a' ∧ Inv a' ∧
      bytes a' = (bytes a).take (pos * a.es) ++ (bytes a).drop ((pos + count) * a.es) ∧
      a'.length = a.length - count ∧ a'.es = a.es := by
  have hfit := h.fits h.len_le
  have hk : (a.length - count) * a.es = pos * a.es + (a.length - (pos + count)) * a.es := by
    rw [← Nat.add_mul]; congr 1; omega
  obtain ⟨d, e, ld, td⟩ := memmove_take a.data (pos * a.es) ((pos + count) * a.es)
    ((a.length - (pos + count)) * a.es) (hk ▸ Nat.le_trans (Nat.mul_le_mul_right _ (Nat.sub_le _ _)) hfit)
    (by rw [← Nat.add_mul, Nat.add_sub_cancel' hr]; exact hfit)
  simp only [erase, e, Option.map_some]
  refine ⟨_, rfl, h.update ld (Nat.le_trans (Nat.sub_le _ _) h.len_le), ?_, rfl, rfl⟩
  simp only [bytes]
  rw [hk, td, List.take_take, Nat.min_eq_left (Nat.mul_le_mul_right _ (Nat.le_trans (Nat.le_add_right _ _) hr)),
    List.drop_take, Nat.sub_mul]

theorem slice_self_spec (a : Arr) (start stop : Nat) (h : Inv a) (h1 : start ≤ stop) (h2 : stop ≤ a.length) :
    ∃ a', sliceSelf a start stop = some a' ∧ Inv a' ∧
      bytes a' = ((bytes a).drop (start * a.es)).take ((stop - start) * a.es) ∧
      a'.length = stop - start ∧ a'.es = a.es := by
  have hfit : stop * a.es ≤ a.data.length := Nat.le_trans (Nat.mul_le_mul_right _ h2) (h.fits h.len_le)
  obtain ⟨d, e, ld, td⟩ := memmove_front a.data (start * a.es) ((stop - start) * a.es)
    (by rw [← Nat.add_mul, Nat.add_sub_cancel' h1]; exact hfit)
  simp only [sliceSelf, e, Option.map_some]
  refine ⟨_, rfl, h.update ld (Nat.le_trans (Nat.sub_le _ _) (Nat.le_trans h2 h.len_le)), ?_, rfl, rfl⟩
  simp only [bytes]
  rw [td, List.drop_take, List.take_take, ← Nat.sub_mul,
    Nat.min_eq_left (Nat.mul_le_mul_right _ (Nat.sub_le_sub_right h2 _))]

theorem slice_from_spec (a : Arr) (src : Bytes) (start stop : Nat) (h : Inv a) (h1 : start ≤ stop)
    (h2 : stop * a.es ≤ src.length) (hg : CanGrow a (stop - start)) :
    ∃ a', sliceFrom a src start stop = some a' ∧ Inv a' ∧
      bytes a' = (src.drop (start * a.es)).take ((stop - start) * a.es) ∧
      a'.length = stop - start ∧ a'.es = a.es :=
  store_spec a _ _ _ h
    (by have := Nat.mul_le_mul_right a.es h1; rw [List.length_take, List.length_drop, Nat.sub_mul]; omega)
    (Nat.le_refl _) hg

/-- the elements of the array as a list of `es`-byte chunks -/
def elems (a : Arr) : List Bytes := chunks a.es a.length a.data

theorem elems_flatten (a : Arr) (h : Inv a) : (elems a).flatten = bytes a :=
  chunks_flatten _ _ _ (h.fits h.len_le)

theorem map_chunks_length (es n : Nat) (b : Bytes) (f : Bytes → Bytes) (h : n * es ≤ b.length)
    (hf : ∀ e, e.length = es → (f e).length = es) : ((chunks es n b).map f).flatten.length = n * es := by
  rw [flatten_length_of_all _ es, List.length_map, chunks_length]
  intro e he
  obtain ⟨x, hx, rfl⟩ := List.mem_map.1 he
  exact hf x (chunks_elem_length es n b h x hx)

theorem map_from_spec (a : Arr) (src : Bytes) (n : Nat) (f : Bytes → Bytes) (h : Inv a) (hs : src.length = n * a.es)
    (hf : ∀ e, e.length = a.es → (f e).length = a.es) (hg : CanGrow a n) :
    ∃ a', mapFrom a src n f = some a' ∧ Inv a' ∧ bytes a' = ((chunks a.es n src).map f).flatten ∧
      a'.length = n ∧ a'.es = a.es :=
  store_spec a _ n n h (map_chunks_length _ _ _ f (by omega) hf) (Nat.le_refl _) hg

theorem map_self_spec (a : Arr) (f : Bytes → Bytes) (h : Inv a)
    (hf : ∀ e, e.length = a.es → (f e).length = a.es) :
    ∃ a', mapSelf a f = some a' ∧ Inv a' ∧ bytes a' = ((elems a).map f).flatten ∧ a'.length = a.length ∧ a'.es = a.es := by
  have hfit := h.fits h.len_le
  have hlen := map_chunks_length a.es a.length a.data f hfit hf
  obtain ⟨d, e, ld, td⟩ := write_spec a.data ((chunks a.es a.length a.data).map f).flatten (hlen ▸ hfit)
  simp only [mapSelf, e, Option.map_some]
  rw [hlen] at td
  exact ⟨_, rfl, h.update ld h.len_le, td, rfl, rfl⟩

theorem filter_from_spec (a : Arr) (src : Bytes) (n : Nat) (f : Bytes → Bool) (h : Inv a) (hs : src.length = n * a.es)
    (hg : CanGrow a n) :
    ∃ a', filterFrom a src n f = some a' ∧ Inv a' ∧ bytes a' = ((chunks a.es n src).filter f).flatten ∧
      a'.length = ((chunks a.es n src).filter f).length ∧ a'.es = a.es :=
  store_spec a _ n _ h
    (flatten_length_of_all _ _ fun e he => chunks_elem_length a.es n src (by omega) e (List.mem_filter.1 he).1)
    (by have := List.length_filter_le f (chunks a.es n src); rwa [chunks_length] at this) hg

/-- reading position `i`, write position `len ≤ i` -/
theorem filterLoop_spec (es : Nat) (f : Bytes → Bool) (fuel : Nat) (d : Bytes) (i len length : Nat)
    (hli : len ≤ i) (hil : i ≤ length) (hd : length * es ≤ d.length) (hf : length - i < fuel) :
    ∃ d' len', filterLoop es f fuel d i len length = some (d', len') ∧ d'.length = d.length ∧
      d'.take (len' * es) = d.take (len * es) ++ ((chunks es (length - i) (d.drop (i * es))).filter f).flatten ∧
      len' = len + ((chunks es (length - i) (d.drop (i * es))).filter f).length ∧ len' ≤ length := by
  induction fuel generalizing d i len with
  | zero => exact absurd hf (Nat.not_lt_zero _)
  | succ fu ih =>
    simp only [filterLoop]
    split
    · rename_i hi
      have hfu : length - (i + 1) < fu := by omega
      have hsub : length - i = (length - (i + 1)) + 1 := by omega
      -- in bytes: the element read ends inside the storage and the write position is not behind it
      have hie : i * es + es ≤ d.length := Nat.le_trans (Nat.add_one_mul i es ▸ Nat.mul_le_mul_right _ hi) hd
      have hle : len * es + es ≤ i * es + es := Nat.add_le_add_right (Nat.mul_le_mul_right _ hli) _
      have hel : ((d.drop (i * es)).take es).length = es := length_take_drop (Nat.le_sub_of_add_le' hie)
      rw [if_pos hie, hsub, chunks, List.drop_drop, ← Nat.add_one_mul, List.filter_cons]
      split
      · obtain ⟨d1, e1, l1, t1, r1⟩ := memcpyIn_take d (len * es) ((d.drop (i * es)).take es)
          (hel.symm ▸ Nat.le_trans hle hie)
        obtain ⟨d', len', q1, q2, q3, q4, q5⟩ := ih d1 (i + 1) (len + 1) (Nat.succ_le_succ hli) hi (l1 ▸ hd) hfu
        -- the write ends at or before the next read position, so the chunks still to be read are those of `d`
        rw [r1 _ (by rw [hel, Nat.add_one_mul]; exact hle)] at q3 q4
        rw [hel, ← Nat.add_one_mul] at t1
        rw [t1] at q3
        exact ⟨d', len', by rw [e1]; exact q1, q2.trans l1, by rw [q3, List.flatten_cons, List.append_assoc],
          by rw [q4, List.length_cons, Nat.add_right_comm, Nat.add_assoc], q5⟩
      · exact ih d (i + 1) len (Nat.le_succ_of_le hli) hi hd hfu
    · rename_i hi
      rw [Nat.sub_eq_zero_of_le (Nat.le_of_not_lt hi), chunks]
      exact ⟨d, len, rfl, rfl, (List.append_nil _).symm, rfl, Nat.le_trans hli hil⟩

theorem filter_self_spec (a : Arr) (f : Bytes → Bool) (h : Inv a) :
    ∃ a', filterSelf a f = some a' ∧ Inv a' ∧ bytes a' = ((elems a).filter f).flatten ∧
      a'.length = ((elems a).filter f).length ∧ a'.es = a.es := by
  obtain ⟨d', len', r1, r2, r3, r4, r5⟩ := filterLoop_spec a.es f (a.length + 1) a.data 0 0 a.length
    (Nat.le_refl _) (Nat.zero_le _) (h.fits h.len_le) (by omega)
  simp only [Nat.zero_mul, List.drop_zero, List.take_zero, List.nil_append, Nat.sub_zero, Nat.zero_add] at r3 r4
  rw [filterSelf, r1]
  exact ⟨_, rfl, h.update r2 (by have := h.len_le; omega), r3, r4, rfl⟩

theorem fold_spec (a : Arr) (g : Nat → Bytes → Nat) (acc : Nat) :
    fold a g acc = (elems a).foldl g acc ∧ foldr a g acc = (elems a).foldr (fun e x => g x e) acc := ⟨rfl, rfl⟩

/-- replay of the allocator traffic: `none` on a free of something not currently allocated -/
def replay : List Ev → List Nat → Option (List Nat)
  | [], live => some live
  | .alloc i :: evs, live => replay evs (i :: live)
  | .free i :: evs, live => if i ∈ live then replay evs (live.filter (· ≠ i)) else none

theorem replay_append (l1 l2 : List Ev) (live : List Nat) :
    replay (l1 ++ l2) live = (replay l1 live).bind fun lv => replay l2 lv := by
  induction l1 generalizing live with
  | nil => simp [replay]
  | cons e es ih =>
    cases e with
    | alloc i => simp [replay, ih]
    | free i =>
      simp only [List.cons_append, replay]
      split
      · exact ih _
      · rfl

/-- the traffic so far replays without a bad free and leaves exactly the current allocation live; ids are fresh -/
structure Ledger (a : Arr) : Prop where
  ok : replay a.log [] = some a.allocation.toList
  fresh : ∀ i, a.allocation = some i → i < a.nextId

theorem reserve_ledger (a : Arr) (r : Nat) (h : Ledger a) (hk : a.kind ≠ .arena) : Ledger (reserve a r) ∧ (reserve a r).kind ≠ .arena := by
  unfold reserve
  split
  · exact ⟨h, hk⟩
  · split
    · split
      · rename_i hka _; exact absurd hka hk
      · refine ⟨⟨?_, ?_⟩, ?_⟩
        · show replay (a.log ++ [Ev.alloc a.nextId] ++ _) [] = _
          rw [replay_append, replay_append, h.ok]
          cases ha : a.allocation with
          | none => simp [replay]
          | some o =>
            -- the new block's id is fresh, so freeing the old block `o` after allocating it leaves
            -- exactly the new one live
            have := h.fresh o ha
            have hne : a.nextId ≠ o := by omega
            simp [replay, hne]
        · intro i hi; simp only [Option.some.injEq] at hi; subst hi; exact Nat.lt_succ_self _
        · show (match a.kind with | .stack _ => Kind.heap | k => k) ≠ _
          split
          · exact nofun
          · exact hk
    · exact ⟨h, hk⟩

/-- deleting releases the storage: afterwards nothing is live and nothing was freed twice -/
theorem delete_once (a : Arr) (h : Ledger a) (hk : a.kind ≠ .arena) : replay (delete a).log [] = some [] := by
  unfold delete
  split
  · rename_i hka
    exact absurd hka hk
  · rename_i o ha _
    show replay (a.log ++ [Ev.free o]) [] = _
    rw [replay_append, h.ok, ha]
    simp [replay]
  · rename_i ha _
    rw [h.ok, ha]; rfl

/-- a stack array with a fallback allocator moves to the allocator when it outgrows the stack and
is a heap array from then on (so it moves from the stack at most once) -/
theorem stack_moves_once (es cap r : Nat) (hr : cap < r) :
    (reserve (onStack es cap true) r).kind = .heap ∧ (reserve (onStack es cap true) r).allocation = some 0 ∧
    (reserve (onStack es cap true) r).log = [.alloc 0] := by
  simp [reserve, onStack, hr]

end Gpc.Arr
