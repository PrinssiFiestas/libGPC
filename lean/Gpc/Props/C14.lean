import Gpc.Proofs.Conc
import Gpc.Generated.Conc
import Gpc.Props.C01
/-!
# C14 — concurrent use is race-free and equals some sequential execution

The skeletons of `gp_locale`, `gp_arena_shared_alloc` and the test counters are regenerated from the sources on every
run (`Gpc.Generated.Conc`).  Objects: 0 = the locale table (mutex 0 = `gp_locale_table_mutex`), 1 = a shared arena
(mutex 1 = the mutex stored behind it), 2..5 = the counters (no guard: atomic accesses only).
-/
namespace Gpc.Props.C14
open Gpc.Conc Gpc.Generated.Conc

def guardOf : Nat → Option Nat
  | 0 => some 0
  | 1 => some 1
  | _ => none

def allPaths : List (List Act) := localePaths ++ sharedAllocPaths ++ counterPaths

/-- T-gen obligation: on every control path of the shared facilities, plain accesses happen only under the object's
mutex and atomic ones only on unguarded objects, the path releases what it locks, and a key is put into the table
only after a miss inside the same critical section. -/
theorem generated_paths_disciplined :
    ∀ p ∈ allPaths, guardedFrom guardOf [] p = true ∧ closed p = true ∧ putsChecked [] false p = true := by
  decide

/-- the shared allocation is `lock; read; write; unlock` around the sequential allocator (the shape `Sec` models) -/
theorem shared_alloc_is_a_section : sharedAllocPaths = [[.lock 1, .read 1, .write 1, .unlock 1]] := by decide

/-- C14 (race freedom): if every thread's program respects the discipline, no schedule reaches a state in which two
threads are about to perform conflicting accesses to the same object. -/
theorem race_free (g : Nat → Option Nat) (progs : Nat → List Act) (hg : ∀ t, guardedFrom g [] (progs t) = true)
    (c : Cfg) (hr : Reach (Cfg.init progs) c) : ¬ Race c :=
  no_race_of_inv g c (inv_reach g _ c (inv_init g progs hg) hr)

/-- in particular for threads that perform any sequences of calls of the library's shared facilities -/
theorem library_calls_race_free (calls : Nat → List (List Act)) (h : ∀ t, ∀ p ∈ calls t, p ∈ allPaths)
    (c : Cfg) (hr : Reach (Cfg.init fun t => (calls t).flatten) c) : ¬ Race c := by
  refine race_free guardOf _ (fun t => ?_) c hr
  exact guarded_flatten guardOf (calls t) (fun p hp =>
    let d := generated_paths_disciplined p (h t p hp); ⟨d.1, d.2.1⟩)

/-- the discipline is not vacuous: the call paths of two threads that both allocate from the shared arena -/
example : (∀ p ∈ [[Act.lock 1, .read 1, .write 1, .unlock 1], [Act.lock 1, .read 1, .write 1, .unlock 1]],
    guardedFrom guardOf [] p = true ∧ closed p = true) := by decide
/-- and it rejects the double-checked lookup: a read of the table outside the mutex -/
example : guardedFrom guardOf [] [.once 0, .getMiss 0, .lock 0, .getMiss 0, .loc, .put 0, .unlock 0] = false := by decide
/-- such a program does race: the unlocked lookup against the insertion under the lock -/
example : Race { owner := fun m => if m = 0 then some 1 else none,
                 th := fun t => if t = 0 then ⟨[], [.getMiss 0]⟩ else if t = 1 then ⟨[0], [.put 0, .unlock 0]⟩ else ⟨[], []⟩ } :=
  ⟨0, 1, .getMiss 0, .put 0, [], [.unlock 0], 0, .r, .w, by decide, rfl, rfl, rfl, rfl, rfl⟩

/-- C14 (sequential equivalence): the shared state and the results are those of running the calls one after the
other in the order `c.log` in which the critical sections took effect, and that order holds each thread's calls in
program order, none lost, none duplicated. -/
theorem section_linearizable {σ α β : Type} (f : σ → α → σ × β) (s0 : σ) (scripts : Nat → List α) (c : Sec σ α β)
    (hr : Sec.Reach f (Sec.init s0 scripts) c) :
    seqRun f s0 c.log = (c.shared, c.outs) ∧ ∀ t, scripts t = c.doneBy t ++ (c.th t).pending :=
  let h := sinv_reach f s0 scripts c hr; ⟨h.seq, fun t => (h.th t).prog⟩

/-- a value read inside the critical section is still the shared state when it is used -/
theorem section_read_is_current {σ α β : Type} (f : σ → α → σ × β) (s0 : σ) (scripts : Nat → List α) (c : Sec σ α β)
    (hr : Sec.Reach f (Sec.init s0 scripts) c) (t : Nat) (s : σ) (h : (c.th t).phase = .haveRead s) : s = c.shared :=
  ((sinv_reach f s0 scripts c hr).th t).fresh s h

/-- C14 (shared arena): the arena behind the mutex satisfies the arena invariant of C01 (from which C01's `alloc_fresh`
and `blocks_disjoint` give that every block handed out, to whichever thread, is aligned, inside its node and disjoint
from every other live block), its state being that of a sequential run of the same allocations. -/
theorem shared_arena_blocks_exclusive (g : Nat → Nat) (a0 : Gpc.Arena.Arena) (h0 : Gpc.Arena.Inv a0)
    (scripts : Nat → List Nat) (c : Sec Gpc.Arena.Arena Nat Gpc.Arena.Addr)
    (hr : Sec.Reach (fun a n => Gpc.Arena.alloc g a n) (Sec.init a0 scripts) c) : Gpc.Arena.Inv c.shared := by
  have := seqRun_invariant _ (fun a n => Gpc.Arena.inv_alloc g a n) a0 c.log h0
  rwa [(section_linearizable _ a0 scripts c hr).1] at this

/-- C14 (locale cache): with the lookup and the insertion in one critical section, all calls for one locale code
return the same object, in every thread and under every schedule. -/
theorem locale_cache_consistent (c0 : Cache) (scripts : Nat → List Nat) (c : Sec Cache Nat Nat)
    (hr : Sec.Reach getOrCreate (Sec.init c0 scripts) c) (i j : Nat) (hi : i < c.log.length) (hj : j < c.log.length)
    (hk : c.log[i] = c.log[j]) : c.outs[i]? = c.outs[j]? := by
  have h := seqRun_results_in_final c0 c.log
  rw [(section_linearizable getOrCreate c0 scripts c hr).1] at h
  simp only [h, List.getElem?_eq_getElem, hi, hj, hk]

/-- a `getOrCreate` that finds the key returns what the table holds and changes nothing: what the lookup-only first
critical section of `gp_locale` does when it hits -/
theorem lookup_hit_is_getOrCreate (c : Cache) (k v : Nat) (h : c.table.lookup k = some v) : getOrCreate c k = (c, v) := by
  simp [getOrCreate, h]

/-- `gp_thread_once`: a section that runs `init` unless the flag is set -/
def onceOp {σ : Type} (init : σ → σ) (s : Bool × σ) (_ : Unit) : (Bool × σ) × Bool :=
  if s.1 then (s, false) else ((true, init s.2), true)

theorem seqRun_once_done {σ : Type} (init : σ → σ) (x : σ) (l : List Unit) :
    seqRun (onceOp init) (true, x) l = ((true, x), List.replicate l.length false) := by
  induction l with
  | nil => rfl
  | cons a r ih => simp [seqRun, onceOp, ih, List.replicate_succ]

/-- C14 (once): however many threads call it and in whatever order, as soon as one call has completed the state is
`init s0` and exactly the first call reports having run the initialiser. -/
theorem once_runs_once {σ : Type} (init : σ → σ) (s0 : σ) (scripts : Nat → List Unit) (c : Sec (Bool × σ) Unit Bool)
    (hr : Sec.Reach (onceOp init) (Sec.init (false, s0) scripts) c) (hne : c.log ≠ []) :
    c.shared = (true, init s0) ∧ c.outs = true :: List.replicate (c.log.length - 1) false := by
  have h := (section_linearizable (onceOp init) (false, s0) scripts c hr).1
  cases hl : c.log with
  | nil => exact absurd hl hne
  | cons a r =>
    rw [hl] at h
    simp only [seqRun, onceOp, Bool.false_eq_true, if_false, seqRun_once_done] at h
    obtain ⟨h1, h2⟩ := Prod.mk.inj h
    exact ⟨h1.symm, by simpa using h2.symm⟩

/-- C14 (counters): atomic increments from any number of threads, in any order, are all counted. -/
theorem counters_exact (c0 c : Ctr) (hr : Ctr.Reach c0 c) (hdone : c.rem.sum = 0) : c.count = c0.count + c0.rem.sum := by
  have := ctr_reach c0 c hr; omega

/-- the non-atomic increment of two threads loses an update under the schedule r0 r1 w0 w1: why the counters
have to be atomic objects (`generated_paths_disciplined` checks that they are in the built configuration) -/
theorem plain_increment_loses_update :
    plainIncr 0 (fun _ => 0) [(0, false), (1, false), (0, true), (1, true)] = 1 := by decide

/-- reachable states exist in which a thread sits between its read and its write while another waits -/
example : ∃ c : Sec Nat Nat Nat, Sec.Reach (fun s n => (s + n, s)) (Sec.init 0 fun _ => [5]) c ∧
    (c.th 0).phase = .haveRead 0 ∧ (c.th 1).phase = .idle :=
  ⟨_, .step 0 (.step 0 .refl rfl) rfl, rfl, rfl⟩

end Gpc.Props.C14
