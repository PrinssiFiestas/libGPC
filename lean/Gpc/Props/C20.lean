import Gpc.Model.Num
import Gpc.Proofs.Num
import Gpc.Proofs.Arena
import Gpc.Proofs.Nat
/-! # C20 — numeric helpers meet their definitions -/
namespace Gpc.Num

/-- FNV-1a over `Nat` with an explicit modulus: the published definition. -/
def fnvSpec (basis prime bits : Nat) (bs : List UInt8) : Nat :=
  bs.foldl (fun h b => ((h ^^^ b.toNat) * prime) % 2^bits) basis

theorem fnv32_eq_spec (bs : List UInt8) :
    (fnv32 bs).toNat = fnvSpec 0x811c9dc5 0x01000193 32 bs := by
  unfold fnv32 fnvSpec
  rw [← List.foldl_hom (f := UInt32.toNat)
        (g₂ := fun h b => ((h ^^^ b.toNat) * 0x01000193) % 2^32)]
  · rfl
  · intro x y; simp [UInt32.toNat_mul, UInt32.toNat_xor]

theorem fnv64_eq_spec (bs : List UInt8) :
    (fnv64 bs).toNat = fnvSpec 0xcbf29ce484222325 0x00000100000001B3 64 bs := by
  unfold fnv64 fnvSpec
  rw [← List.foldl_hom (f := UInt64.toNat)
        (g₂ := fun h b => ((h ^^^ b.toNat) * 0x00000100000001B3) % 2^64)]
  · rfl
  · intro x y; simp [UInt64.toNat_mul, UInt64.toNat_xor]

theorem U128.toNat_lt (u : U128) : u.toNat < 2^128 := by
  unfold U128.toNat
  have h1 := u.hi.toNat_lt
  have h2 := u.lo.toNat_lt
  omega

theorem U128.toNat_ofNat (n : Nat) (h : n < 2^128) : (U128.ofNat n).toNat = n := by
  simp only [U128.toNat, U128.ofNat, UInt64.toNat_ofNat']
  rw [Nat.mod_eq_of_lt (Nat.div_lt_of_lt_mul (show n < 2^64 * 2^64 from h))]
  exact Nat.div_add_mod' n (2^64)

/-- `*gp_u128_lo(&hash) ^= byte` is xor on the whole 128-bit number -/
theorem U128.xor_lo (h : U128) (b : UInt8) :
    (U128.mk h.hi (h.lo ^^^ b.toUInt64)).toNat = h.toNat ^^^ b.toNat := by
  -- the byte is the low half of a word whose high half is 0
  have := xor_concat_pow 64 h.hi.toNat h.lo.toNat 0 b.toNat h.lo.toNat_lt (Nat.lt_trans b.toNat_lt (by decide))
  rw [Nat.zero_mul, Nat.zero_add, Nat.xor_zero] at this
  simp only [U128.toNat, UInt64.toNat_xor, UInt8.toNat_toUInt64, this]

theorem fnv128_eq_spec (bs : List UInt8) :
    (fnv128 bs).toNat = fnvSpec fnv128Basis fnv128Prime 128 bs := by
  unfold fnv128 fnvSpec
  rw [← List.foldl_hom (f := U128.toNat)
        (g₂ := fun h b => ((h ^^^ b.toNat) * fnv128Prime) % 2^128)]
  · rw [U128.toNat_ofNat _ (by decide)]
  · intro x y
    simp only [mult128]
    rw [U128.toNat_ofNat _ (Nat.mod_lt _ (by decide)), U128.xor_lo,
        U128.toNat_ofNat _ (by decide)]

/-- published FNV-1a test vectors (Fowler/Noll/Vo reference, "" / "a" / "foobar") -/
example : fnv32 [] = 0x811c9dc5 ∧ fnv32 [0x61] = 0xe40c292c
    ∧ fnv32 [0x66,0x6f,0x6f,0x62,0x61,0x72] = 0xbf9cf968 := by decide
example : fnv64 [] = 0xcbf29ce484222325 ∧ fnv64 [0x61] = 0xaf63dc4c8601ec8c
    ∧ fnv64 [0x66,0x6f,0x6f,0x62,0x61,0x72] = 0x85944171f73967e8 := by decide
example : (fnv128 [0x61]).toNat = 0xd228cb696f1a8caf78912b704e4a8964 := by decide

/-- `Gpc.Arr.np2` is the closed form by which the arrays, the strings and the scratch accounting grow; below half
the word size the bit smearing of `gp_next_power_of_2_32` / `_64` computes it -/
theorem np2_32_eq (x : Nat) (hx : x < 2^31) : np2_32 x = Gpc.Arr.np2 x :=
  np2_of_smeared (smear32_smeared x) hx (by decide)

theorem np2_64_eq (x : Nat) (hx : x < 2^63) : np2_64 x = Gpc.Arr.np2 x :=
  np2_of_smeared (smear64_smeared x) hx (by decide)

/-- `x < 2^31`: the result is the smallest power of two strictly greater than `x` -/
theorem np2_32_spec (x : Nat) (hx : x < 2^31) :
    ∃ k, np2_32 x = 2^k ∧ x < 2^k ∧ (∀ j, x < 2^j → 2^k ≤ 2^j) :=
  np2_32_eq x hx ▸ np2_least x

theorem np2_64_spec (x : Nat) (hx : x < 2^63) :
    ∃ k, np2_64 x = 2^k ∧ x < 2^k ∧ (∀ j, x < 2^j → 2^k ≤ 2^j) :=
  np2_64_eq x hx ▸ np2_least x

/-- outside the precondition the 32-bit variant wraps to 0 (documented limit of the helper) -/
example : np2_32 (2^31) = 0 := by decide +kernel
example : np2_32 (2^31 - 1) = 2^31 := by decide +kernel
example : np2_32 5 = 8 := by decide +kernel
example : np2_32 8 = 16 := by decide +kernel

theorem roundToAligned_pow (x k : Nat) (hk : k < 64) (hx : x + 2^k ≤ 2^64) :
    roundToAligned x (2^k) = Gpc.Arena.roundUp x (2^k) := by
  have e : (2^k + 2^64 - 1) % 2^64 = 2^k - 1 := by have := Nat.two_pow_pos k; omega
  simp only [roundToAligned, e, Nat.and_two_pow_sub_one_eq_mod, Gpc.Arena.roundUp]
  rw [round_arith (Nat.two_pow_pos k) (Nat.pow_dvd_pow 2 (Nat.le_of_lt hk)) hx, Nat.mul_comm]

/-- `b = 2^k`, no overflow (`x + b ≤ 2^64`): the least multiple of `b` that is `≥ x`. -/
theorem round_spec (x k : Nat) (hk : k < 64) (hx : x + 2^k ≤ 2^64) :
    roundToAligned x (2^k) % 2^k = 0 ∧ x ≤ roundToAligned x (2^k)
      ∧ roundToAligned x (2^k) < x + 2^k := by
  rw [roundToAligned_pow x k hk hx]
  exact ⟨Gpc.Arena.roundUp_mod _ _, Gpc.Arena.roundUp_ge _ _ (Nat.two_pow_pos k), Gpc.Arena.roundUp_lt _ _ (Nat.two_pow_pos k)⟩

/-- `gp_check_bounds` in closed form: the end is clipped to the limit, the start to just below the
clipped end, and the result is `true` iff neither was changed -/
theorem checkBounds_eq (s e : Option Nat) (limit : Nat) :
    checkBounds s e limit =
      ⟨decide (e.getD limit ≤ limit) && s.all (· < min (e.getD limit) limit),
       s.map (min · (min (e.getD limit) limit - 1)), e.map fun _ => min (e.getD limit) limit⟩ := by
  have pred (n : Nat) : n - (if n ≠ 0 then 1 else 0) = n - 1 := by split <;> omega
  simp only [checkBounds, pred]
  generalize e.getD limit = e0
  by_cases h : e0 ≤ limit
  · simp only [Nat.not_lt.2 h, if_false, Nat.min_eq_left h]
    cases s with
    | none => simp [h]
    | some s => by_cases hs : e0 ≤ s <;> simp [h, hs] <;> omega
  · simp only [Nat.not_le.1 h, if_true, Nat.min_eq_right (Nat.le_of_not_le h)]
    cases s with
    | none => simp [h]
    | some s => by_cases hs : limit ≤ s <;> simp [h, hs] <;> omega

/-- afterwards `start ≤ end ≤ limit` (for the pointers that were given) -/
theorem check_bounds_ordered (s e : Option Nat) (limit : Nat) :
    let r := checkBounds s e limit
    (∀ e', r.stop = some e' → e' ≤ limit) ∧
    (∀ s', r.start = some s' → s' ≤ (r.stop.getD limit) ∧ s' ≤ limit) := by
  simp only [checkBounds_eq, Option.map_eq_some_iff]
  constructor
  · rintro e' ⟨_, _, rfl⟩; exact Nat.min_le_right _ _
  · rintro s' ⟨s0, _, rfl⟩
    cases e <;> simp only [Option.map, Option.getD] <;> omega

/-- returns true exactly when nothing was changed ("clipped") -/
theorem check_bounds_true_iff (s e : Option Nat) (limit : Nat) :
    (checkBounds s e limit).ok = true ↔
      ((checkBounds s e limit).start = s ∧ (checkBounds s e limit).stop = e
        ∧ (∀ e', e = some e' → e' ≤ limit) ∧ (∀ s', s = some s' → s' < e.getD limit)) := by
  simp only [checkBounds_eq]
  -- the four NULL / non-NULL combinations; in each, "unchanged" is a fact about `min`
  cases s <;> cases e <;> simp <;> omega

/-- NULL pointers stay NULL; given pointers stay given -/
theorem check_bounds_shape (s e : Option Nat) (limit : Nat) :
    ((checkBounds s e limit).start.isSome = s.isSome) ∧
    ((checkBounds s e limit).stop.isSome = e.isSome) := by
  simp [checkBounds_eq]

example : checkBounds (some 0) (some 0) 5 = ⟨false, some 0, some 0⟩ := by decide
example : checkBounds (some 7) (some 9) 5 = ⟨false, some 4, some 5⟩ := by decide
example : checkBounds (some 1) (some 3) 5 = ⟨true, some 1, some 3⟩ := by decide

theorem pcgNext_lt (r : Pcg) : (pcgNext r).2 < 2^32 := by
  unfold pcgNext
  simp only
  apply Nat.or_lt_two_pow
  · exact Nat.lt_of_le_of_lt (Nat.shiftRight_le _ _) (Nat.mod_lt _ (by decide))
  · exact Nat.mod_lt _ (by decide)

theorem boundedRand_lt (fuel : Nat) (r r' : Pcg) (bound x : Nat) (hb : bound ≠ 0)
    (h : boundedRand fuel r bound = some (r', x)) : x < bound := by
  induction fuel generalizing r with
  | zero => simp [boundedRand] at h
  | succ n ih =>
    simp only [boundedRand] at h
    split at h
    · injection h with h; injection h with _ h2
      rw [← h2]; exact Nat.mod_lt _ (by omega)
    · exact ih _ h

/-- the `min ≤ max` branch: an offset `x` below the span (any 32-bit `x` when the span wraps to 0)
is added to `min` in unsigned arithmetic -/
theorem randomRange_eq (fuel : Nat) (r r' : Pcg) (min max v : Int) (hle : min ≤ max)
    (h : randomRange fuel r min max = some (r', v)) :
    ∃ x, v = toInt32 (toUInt32 min + x) ∧ x < 2^32 ∧
      ((toUInt32 max + 2^32 - toUInt32 min + 1) % 2^32 ≠ 0 →
        x < (toUInt32 max + 2^32 - toUInt32 min + 1) % 2^32) := by
  simp only [randomRange, ge_iff_le, hle, if_true, Option.map_eq_some_iff, Prod.mk.injEq,
    Prod.exists] at h
  obtain ⟨r1, x, hr, -, rfl⟩ := h
  refine ⟨x, rfl, ?_⟩
  split at hr
  · rename_i hb
    have := boundedRand_lt _ _ _ _ _ hb hr
    exact ⟨by omega, fun _ => this⟩
  · rename_i hb
    cases hr
    exact ⟨pcgNext_lt r, fun h => absurd h hb⟩

/-- ranged integers lie in the inclusive range, for all int32 `min ≤ max` incl. the extremes -/
theorem range_spec (fuel : Nat) (r r' : Pcg) (min max v : Int)
    (hmin : -(2^31 : Int) ≤ min) (hmax : max < (2^31 : Int)) (hle : min ≤ max)
    (h : randomRange fuel r min max = some (r', v)) : min ≤ v ∧ v ≤ max := by
  obtain ⟨x, rfl, hx, hs⟩ := randomRange_eq fuel r r' min max v hle h
  have hspan := span_cast min max
  have : min + x ≤ max := by omega
  rw [toInt32_toUInt32_add min x hmin (by omega)]
  omega

/-- equal bounds give exactly the bound -/
theorem range_eq (fuel : Nat) (r r' : Pcg) (m v : Int)
    (hmin : -(2^31 : Int) ≤ m) (hmax : m < (2^31 : Int))
    (h : randomRange fuel r m m = some (r', v)) : v = m := by
  have := range_spec fuel r r' m m v hmin hmax (Int.le_refl _) h
  omega

/-- `gp_frandom` = n / 2^32 with `0 ≤ n < 2^32`, hence in `[0, 1)` -/
theorem frandom_unit (r : Pcg) : (frandomNum r).2 < 2^32 := pcgNext_lt r

/-- equal seeds give equal streams (the generator is a function of its state only) -/
theorem equal_seeds_equal_streams (s1 s2 n : Nat) (h : s1 = s2) :
    stream n (newRandomState s1) = stream n (newRandomState s2) := by rw [h]

example : (randomRange 100 (newRandomState 7) 5 5).map (·.2) = some 5 := by decide +kernel
example : ((randomRange 100 (newRandomState 7) (-2147483648) 2147483647).map (·.2)).isSome := by
  decide +kernel

end Gpc.Num
