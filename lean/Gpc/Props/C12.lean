import Gpc.Spec.CaseFull
import Gpc.Props.C11
import Gpc.Proofs.List
/-!
# C12 — full case mapping follows SpecialCasing incl. Turkic/Lithuanian and final sigma

`Gpc.CaseFull` models gp_str_to_upper_full / gp_str_to_lower_full / gp_str_capitalize, with per-code-point tables
regenerated from the compiled code on every run; `Gpc.SpecCase` is the Unicode default full case conversion over
the vendored character database.
-/
namespace Gpc.CaseFull
open Gpc.Generated

-- the two sides are the same data; a mapping that changes in /repo changes the regenerated side and `rfl` fails
theorem upperN_eq : implUpperN = Gpc.Ucd.fullUpperN := rfl
theorem upperTr_eq : implUpperTr = Gpc.Ucd.fullUpperTr := rfl
theorem upperLt_eq : implUpperLt = Gpc.Ucd.fullUpperLt := rfl
theorem lowerN_eq : implLowerN = Gpc.Ucd.fullLowerN := rfl
theorem lowerTr_eq : implLowerTr = Gpc.Ucd.fullLowerTr := rfl
theorem lowerLt_eq : implLowerLt = Gpc.Ucd.fullLowerLt := rfl
theorem titleN_eq : implTitleN = Gpc.Ucd.fullTitleN := rfl
theorem titleTr_eq : implTitleTr = Gpc.Ucd.fullTitleTr := rfl
theorem titleLt_eq : implTitleLt = Gpc.Ucd.fullTitleLt := rfl
/-- full case folding (status C + F; T under tr / az) -/
theorem foldN_eq : implFoldN = Gpc.Ucd.fullFoldN := rfl
theorem foldTr_eq : implFoldTr = Gpc.Ucd.fullFoldTr := rfl

theorem lookupOr_congr (c : Nat) {t t' : List (Nat × List Nat)} (ht : t = t') {x y : Nat} (hxy : x = y) :
    lookupOr t c [x] = lookupOr t' c [y] := by rw [ht, hxy]

/-- C12, single code points: for every code point and each locale the functions distinguish, the full upper /
lower / title mapping the library applies to a code point on its own is the Unicode full mapping. -/
theorem upper1_eq (loc : Loc) (c : Nat) : upper1 loc c = Gpc.SpecCase.upper1 loc c := by
  cases loc
  · exact lookupOr_congr c upperN_eq (Gpc.CaseMap.toUpper_eq_ucd c)
  · exact lookupOr_congr c upperTr_eq (Gpc.CaseMap.toUpper_eq_ucd c)
  · exact lookupOr_congr c upperLt_eq (Gpc.CaseMap.toUpper_eq_ucd c)
theorem lower1_eq (loc : Loc) (c : Nat) : lower1 loc c = Gpc.SpecCase.lower1 loc c := by
  cases loc
  · exact lookupOr_congr c lowerN_eq (Gpc.CaseMap.toLower_eq_ucd c)
  · exact lookupOr_congr c lowerTr_eq (Gpc.CaseMap.toLower_eq_ucd c)
  · exact lookupOr_congr c lowerLt_eq (Gpc.CaseMap.toLower_eq_ucd c)
theorem title1_eq (loc : Loc) (c : Nat) : title1 loc c = Gpc.SpecCase.title1 loc c := by
  cases loc
  · exact lookupOr_congr c titleN_eq (Gpc.CaseMap.toTitle_eq_ucd c)
  · exact lookupOr_congr c titleTr_eq (Gpc.CaseMap.toTitle_eq_ucd c)
  · exact lookupOr_congr c titleLt_eq (Gpc.CaseMap.toTitle_eq_ucd c)
/-- ... and so is the full case folding that `gp_wcs_fold_utf8` applies to a code point -/
theorem fold1_eq (loc : Loc) (c : Nat) : fold1 loc c = Gpc.SpecCase.fold1 loc c := by
  cases loc
  · exact lookupOr_congr c foldN_eq (Gpc.CaseMap.toLower_eq_ucd c)
  · exact lookupOr_congr c foldTr_eq (Gpc.CaseMap.toLower_eq_ucd c)
  · exact lookupOr_congr c foldN_eq (Gpc.CaseMap.toLower_eq_ucd c)

/-- no code point of `cps` is subject to a context rule of upper-casing: U+0345 (the library's
reordering) and, for Lithuanian, U+0307 -/
def UpperPlain (loc : Loc) (cps : List Nat) : Prop := ∀ c ∈ cps, c ≠ 0x345 ∧ (loc = .lt → c ≠ 0x307)

/-- ... of lower-casing: capital sigma; Lithuanian I, J, I-ogonek; Turkish/Azeri I and U+0307 -/
def LowerPlain (loc : Loc) (cps : List Nat) : Prop :=
  ∀ c ∈ cps, c ≠ 0x3A3 ∧ (loc = .lt → c ≠ 0x49 ∧ c ≠ 0x4A ∧ c ≠ 0x12E) ∧ (loc = .tr → c ≠ 0x49 ∧ c ≠ 0x307)

theorem upperFullF_plain (loc : Loc) : ∀ (fuel : Nat) (cps : List Nat), cps.length < fuel → UpperPlain loc cps →
    upperFullF loc fuel cps = cps.flatMap (upper1 loc) := by
  intro fuel
  induction fuel with
  | zero => intro cps h; omega
  | succ f ih =>
    intro cps hl hp
    cases cps with
    | nil => rfl
    | cons enc rest =>
      have hrest : UpperPlain loc rest := fun c hc => hp c (by simp [hc])
      -- the Lithuanian look-ahead sees no U+0307: there is none in the text
      have hla : ¬ (rest.headD 0 = 0x307 ∧ loc = .lt ∧ isSoftDotted enc = true) := by
        intro h
        cases rest with
        | nil => simp at h
        | cons d r => exact (hp d (by simp)).2 h.2.1 h.1
      simp only [upperFullF]
      rw [if_neg (fun h => (hp enc (by simp)).1 h.1), if_neg hla, ih rest (by simp at hl; omega) hrest,
        List.flatMap_cons]

/-- C12, upper-casing without context rules: each code point is replaced by its Unicode full uppercase
mapping, for any length, any number of expanding code points and every locale. -/
theorem upper_plain (loc : Loc) (cps : List Nat) (h : UpperPlain loc cps) :
    upperFull loc cps = cps.flatMap (Gpc.SpecCase.upper1 loc) ∧
    Gpc.SpecCase.toUpper loc cps = cps.flatMap (Gpc.SpecCase.upper1 loc) := by
  constructor
  · rw [upperFull, upperFullF_plain loc _ cps (Nat.lt_succ_self _) h, funext (upper1_eq loc)]
  · suffices ∀ before, Gpc.SpecCase.upperAux loc before cps = cps.flatMap (Gpc.SpecCase.upper1 loc) from this []
    induction cps with
    | nil => intro before; rfl
    | cons c rest ih =>
      intro before
      simp only [Gpc.SpecCase.upperAux]
      rw [if_neg (fun hh => (h c (by simp)).2 hh.1 hh.2.1), ih (fun x hx => h x (by simp [hx])), List.flatMap_cons]

/-- `c` is none of the code points that lower-casing treats by a Lithuanian or Turkic context rule -/
def NoLocaleRule (loc : Loc) (c : Nat) : Prop :=
  (loc = .lt → c ≠ 0x49 ∧ c ≠ 0x4A ∧ c ≠ 0x12E) ∧ (loc = .tr → c ≠ 0x49 ∧ c ≠ 0x307)

/-- the library's lower-casing and the Unicode default agree on the context at every position of `cps` (`before`:
the text before it, nearest first): at a capital sigma the look-behind / look-ahead test decides as Final_Sigma,
and no code point has a locale rule -/
def LowerAgrees (loc : Loc) : List Nat → List Nat → Prop
  | _, [] => True
  | before, c :: after =>
    (c = 0x3A3 → greekFinal (before.headD 0) after = Gpc.SpecCase.finalSigma before after) ∧
    NoLocaleRule loc c ∧ LowerAgrees loc (c :: before) after

theorem lowerFullF_cons_plain {loc : Loc} {c : Nat} (hs : c ≠ 0x3A3) (hc : NoLocaleRule loc c)
    (fuel lb : Nat) (rest : List Nat) :
    lowerFullF loc (fuel + 1) lb (c :: rest) = lower1 loc c ++ lowerFullF loc fuel c rest := by
  simp only [lowerFullF]
  rw [if_neg hs, if_neg (fun h => by have := hc.1 h.1; omega)]
  split
  · rfl
  · rw [if_neg (fun h => (hc.2 h.2).1 h.1)]

theorem lowerAux_cons_plain {loc : Loc} {c : Nat} (hs : c ≠ 0x3A3) (hc : NoLocaleRule loc c)
    (before after : List Nat) :
    Gpc.SpecCase.lowerAux loc before (c :: after) =
      Gpc.SpecCase.lower1 loc c ++ Gpc.SpecCase.lowerAux loc (c :: before) after := by
  simp only [Gpc.SpecCase.lowerAux]
  rw [if_neg hs, if_neg (fun h => by have := hc.1 h.1; omega), if_neg (fun h => (hc.2 h.1).2 h.2.1),
    if_neg (fun h => (hc.2 h.1).1 h.2.1), if_neg (fun h => (hc.2 h.1).1 h.2)]

/-- `gp_str_to_lower_full` is the Unicode default lower-casing on every text on which the contexts agree -/
theorem lowerFullF_eq_lowerAux (loc : Loc) : ∀ (fuel : Nat) (before cps : List Nat), cps.length < fuel →
    LowerAgrees loc before cps → lowerFullF loc fuel (before.headD 0) cps = Gpc.SpecCase.lowerAux loc before cps := by
  intro fuel
  induction fuel with
  | zero => intro b cps h; omega
  | succ f ih =>
    intro before cps hl hp
    cases cps with
    | nil => simp [lowerFullF, Gpc.SpecCase.lowerAux]
    | cons c rest =>
      obtain ⟨hsig, hc, hrest⟩ := hp
      have hrec := ih (c :: before) rest (by simp at hl; omega) hrest
      simp only [List.headD_cons] at hrec
      by_cases hs : c = 0x3A3
      · simp only [lowerFullF, Gpc.SpecCase.lowerAux]
        rw [if_pos hs, if_pos hs, hsig hs, hrec]; rfl
      · rw [lowerFullF_cons_plain hs hc, lowerAux_cons_plain hs hc, hrec, lower1_eq]

theorem LowerPlain.agrees {loc : Loc} {cps : List Nat} (h : LowerPlain loc cps) (before : List Nat) :
    LowerAgrees loc before cps := by
  induction cps generalizing before with
  | nil => trivial
  | cons c rest ih =>
    have hc := h c (by simp)
    exact ⟨fun e => absurd e hc.1, hc.2, ih (fun x hx => h x (by simp [hx])) _⟩

/-- C12, lower-casing without context rules: as `upper_plain` -/
theorem lower_plain (loc : Loc) (cps : List Nat) (h : LowerPlain loc cps) :
    lowerFull loc cps = cps.flatMap (Gpc.SpecCase.lower1 loc) ∧
    Gpc.SpecCase.toLower loc cps = cps.flatMap (Gpc.SpecCase.lower1 loc) := by
  have spec : ∀ before, Gpc.SpecCase.lowerAux loc before cps = cps.flatMap (Gpc.SpecCase.lower1 loc) := by
    induction cps with
    | nil => intro before; rfl
    | cons c rest ih =>
      intro before
      have hc := h c (by simp)
      rw [lowerAux_cons_plain hc.1 hc.2, ih (fun x hx => h x (by simp [hx])), List.flatMap_cons]
  exact ⟨(lowerFullF_eq_lowerAux loc _ [] cps (Nat.lt_succ_self _) (h.agrees [])).trans (spec []), spec []⟩

/-- "ordinary words": letters on which the library's letter test agrees with Unicode's Cased property (Greek
and Latin letters do), and characters that are neither case-ignorable nor combining marks (spaces, digits,
ordinary punctuation) -/
def OrdinaryWords (loc : Loc) (cps : List Nat) : Prop :=
  ∀ c ∈ cps, isGreekLetter c = Gpc.SpecCase.cased c ∧ Gpc.SpecCase.caseIgnorable c = false ∧ isDiatrical c = false ∧
    (loc = .lt → c ≠ 0x49 ∧ c ≠ 0x4A ∧ c ≠ 0x12E) ∧ (loc = .tr → c ≠ 0x49 ∧ c ≠ 0x307)

/-- the terminator 0, read at the two ends of the text, is neither a letter nor a combining mark -/
theorem terminator_plain : isGreekLetter 0 = false ∧ isDiatrical 0 = false := by decide +kernel

theorem nextCased_plain (l : List Nat) (h : ∀ c ∈ l, isGreekLetter c = Gpc.SpecCase.cased c ∧ Gpc.SpecCase.caseIgnorable c = false) :
    Gpc.SpecCase.nextCased l = isGreekLetter (l.headD 0) := by
  rw [Gpc.SpecCase.nextCased, dropWhile_eq_self fun c hc => (h c (List.mem_of_mem_head? hc)).2]
  cases l with
  | nil => exact terminator_plain.1.symm
  | cons c t => exact (h c List.mem_cons_self).1.symm

theorem OrdinaryWords.agrees {loc : Loc} {cps : List Nat} (h : OrdinaryWords loc cps) {before : List Nat}
    (hb : OrdinaryWords loc before) : LowerAgrees loc before cps := by
  induction cps generalizing before with
  | nil => trivial
  | cons c rest ih =>
    have hc := h c (by simp)
    have hrest : OrdinaryWords loc rest := fun x hx => h x (by simp [hx])
    refine ⟨fun _ => ?_, hc.2.2.2, ih hrest (fun x hx => ?_)⟩
    · unfold greekFinal Gpc.SpecCase.finalSigma
      rw [nextCased_plain before (fun c hc => ⟨(hb c hc).1, (hb c hc).2.1⟩),
          nextCased_plain rest (fun c hc => ⟨(hrest c hc).1, (hrest c hc).2.1⟩),
          dropWhile_eq_self fun c hc => (hrest c (List.mem_of_mem_head? hc)).2.2.1]
      have hd : isDiatrical (before.headD 0) = false := by
        cases before with
        | nil => exact terminator_plain.2
        | cons c t => exact (hb c (by simp)).2.2.1
      rw [hd]
      cases isGreekLetter (before.headD 0) <;> rfl
    · rcases List.mem_cons.1 hx with rfl | hx
      · exact hc
      · exact hb x hx

/-- C12, final sigma: in ordinary words, of any length and in every locale, lower-casing is the Unicode
default conversion; capital sigma becomes final sigma exactly when a letter precedes it and none follows. -/
theorem lower_ordinary_words (loc : Loc) (cps : List Nat) (h : OrdinaryWords loc cps) :
    lowerFull loc cps = Gpc.SpecCase.toLower loc cps :=
  lowerFullF_eq_lowerAux loc _ [] cps (Nat.lt_succ_self _) (h.agrees (fun _ hc => by simp at hc))

/-- C12, capitalisation touches only the first code point: the result is a new head followed by a suffix of the
original tail, and unless the first letter is the iota subscript U+0345 that suffix lacks at most one code point
(the Lithuanian dot above). -/
theorem capitalize_only_first (loc : Loc) (first : Nat) (rest : List Nat) :
    ∃ pre suf, capitalize loc (first :: rest) = pre ++ suf ∧ suf <:+ rest ∧
      (first ≠ 0x345 → rest.length ≤ suf.length + 1) := by
  unfold capitalize
  simp only
  split
  · rename_i h
    refine ⟨rest.takeWhile isDiatrical ++ [0x399], rest.dropWhile isDiatrical, by simp, List.dropWhile_suffix _, fun hne => absurd h.1 hne⟩
  · split
    · exact ⟨title1 loc first, rest.drop 1, rfl, List.drop_suffix _ _, fun _ => by simp; omega⟩
    · exact ⟨title1 loc first, rest, rfl, List.suffix_refl _, fun _ => by omega⟩

/-- ... and is the Unicode titlecase mapping of that code point, unless it is an iota subscript in front of a
combining mark.  `h2`: under Lithuanian, in front of U+0307, the two Soft_Dotted tables must agree on it (the
library follows Unicode 15.1, the vendored table is Unicode 14). -/
theorem capitalize_eq_spec (loc : Loc) (first : Nat) (rest : List Nat)
    (h1 : ¬ (first = 0x345 ∧ isDiatrical (rest.headD 0) = true))
    (h2 : loc = .lt → rest.head? = some 0x307 → isSoftDotted first = Gpc.SpecCase.softDotted first) :
    capitalize loc (first :: rest) = Gpc.SpecCase.capitalize loc (first :: rest) := by
  unfold capitalize Gpc.SpecCase.capitalize
  simp only
  rw [if_neg h1, title1_eq]
  cases rest with
  | nil => simp
  | cons d r =>
    simp only [List.headD_cons, List.drop_succ_cons, List.drop_zero, ne_eq, reduceCtorEq, not_false_eq_true, and_true]
    by_cases hc : d = 0x307 ∧ loc = .lt
    · have := h2 hc.2 (by simp [hc.1])
      simp [hc.1, hc.2, this]
    · rw [if_neg (fun h => hc ⟨h.1, h.2.1⟩), if_neg (fun h => hc ⟨h.2.1, h.1⟩)]

def scalarB (c : Nat) : Bool := c < 0x110000 && !(0xD800 ≤ c && c ≤ 0xDFFF)

theorem tables_scalar :
    (implUpperN ++ implUpperTr ++ implUpperLt ++ implLowerN ++ implLowerTr ++ implLowerLt ++
      implTitleN ++ implTitleTr ++ implTitleLt).all (fun p => p.2.all scalarB) = true := by decide +kernel

theorem scalarB_iff (c : Nat) : scalarB c = true ↔ Gpc.Utf.IsScalar c := by
  unfold scalarB Gpc.Utf.IsScalar; simp; omega

theorem lookupOr_scalar {t : List (Nat × List Nat)} (ht : t.all (fun p => p.2.all scalarB) = true) (c : Nat)
    {dflt : List Nat} (hd : dflt.all scalarB = true) : (lookupOr t c dflt).all scalarB = true := by
  unfold lookupOr
  cases h : t.lookup c with
  | none => exact hd
  | some v =>
    obtain ⟨l₁, l₂, rfl, _⟩ := List.lookup_eq_some_iff.1 h
    exact List.all_eq_true.1 ht (c, v) (by simp)

/-- the full uppercase mapping of a scalar value consists of scalar values, so its UTF-8 encoding is valid -/
theorem upper1_scalar (loc : Loc) (c : Nat) (hc : Gpc.Utf.IsScalar c) : (upper1 loc c).all scalarB = true := by
  have ht := tables_scalar
  simp only [List.all_append, Bool.and_eq_true] at ht
  obtain ⟨⟨⟨⟨⟨⟨⟨⟨hN, hTr⟩, hLt⟩, -⟩, -⟩, -⟩, -⟩, -⟩, -⟩ := ht
  have hd : [Gpc.CaseMap.toUpper c].all scalarB = true := by
    simpa using (scalarB_iff _).2 (Gpc.CaseMap.maps_scalar_to_scalar c hc).1
  cases loc
  · exact lookupOr_scalar hN c hd
  · exact lookupOr_scalar hTr c hd
  · exact lookupOr_scalar hLt c hd

/-- Ranges that start above `B` cannot contain a code point up to `B`: the test vector below is evaluated on the
few ranges under U+0400; searching all of `Ucd.caseIgnorable` (some 430 ranges) and `Ucd.cased` for each of its
110 code points is about six times the work. -/
theorem inRanges_filter (rs : List (Nat × Nat)) {c B : Nat} (h : c ≤ B) :
    inRanges rs c = inRanges (rs.filter (fun r => decide (r.1 ≤ B))) c := by
  unfold inRanges
  induction rs with
  | nil => rfl
  | cons r rs ih =>
    rw [List.filter_cons]
    split
    · rw [List.any_cons, List.any_cons, ih]
    · rename_i hr
      have : decide (r.1 ≤ c) = false := by simp at hr ⊢; omega
      rw [List.any_cons, ih, this, Bool.false_and, Bool.false_or]

theorem all_of_bounded {l : List Nat} (B : Nat) {P : Nat → Bool} (P' : Nat → Bool) (hP : ∀ c ≤ B, P' c = P c)
    (h : l.all (fun c => decide (c ≤ B) && P' c) = true) : l.all P = true := by
  rw [List.all_eq_true] at h ⊢
  intro c hc
  have := h c hc
  rw [Bool.and_eq_true, decide_eq_true_eq] at this
  rw [← hP c this.1]; exact this.2

-- the Greek alphabet, the ASCII letters, `0`, `9`, space and ordinary punctuation meet the conditions of
-- `OrdinaryWords` that do not depend on the locale
theorem greek_latin_alphabet_ordinary :
    ((List.range 26).map (· + 0x41) ++ (List.range 26).map (· + 0x61) ++ (List.range 17).map (· + 0x391) ++
      (List.range 7).map (· + 0x3A3) ++ (List.range 25).map (· + 0x3B1) ++ [0x20, 0x2C, 0x21, 0x3F, 0x30, 0x39, 0x386, 0x3AC, 0x3CC]).all
      (fun c => isGreekLetter c == Gpc.SpecCase.cased c && !Gpc.SpecCase.caseIgnorable c && !isDiatrical c) = true := by
  refine all_of_bounded 0x3FF (fun c => isGreekLetter c == inRanges (Gpc.Ucd.cased.filter (fun r => decide (r.1 ≤ 0x3FF))) c &&
    !inRanges (Gpc.Ucd.caseIgnorable.filter (fun r => decide (r.1 ≤ 0x3FF))) c && !isDiatrical c) (fun c hc => ?_) (by decide +kernel)
  rw [Gpc.SpecCase.cased, Gpc.SpecCase.caseIgnorable, inRanges_filter Gpc.Ucd.cased hc, inRanges_filter Gpc.Ucd.caseIgnorable hc]

-- "ΟΔΥΣΣΕΥΣ ΣΟΦΟΣ" -> "οδυσσευς σοφος": final sigma exactly at the ends of the words
example : lowerFull .n [0x39F, 0x394, 0x3A5, 0x3A3, 0x3A3, 0x395, 0x3A5, 0x3A3, 0x20, 0x3A3, 0x39F, 0x3A6, 0x39F, 0x3A3] =
    [0x3BF, 0x3B4, 0x3C5, 0x3C3, 0x3C3, 0x3B5, 0x3C5, 0x3C2, 0x20, 0x3C3, 0x3BF, 0x3C6, 0x3BF, 0x3C2] := by decide +kernel
-- sharp s expands, any number of times; Turkish dotted / dotless i; Lithuanian dot
example : upperFull .n [0xDF, 0xDF, 0x61] = [0x53, 0x53, 0x53, 0x53, 0x41] := by decide +kernel
example : upperFull .tr [0x69, 0x131] = [0x130, 0x49] ∧ lowerFull .tr [0x49, 0x130] = [0x131, 0x69] := by decide +kernel
example : lowerFull .lt [0xCC] = [0x69, 0x307, 0x300] ∧ upperFull .lt [0x69, 0x307] = [0x49] := by decide +kernel
example : capitalize .n [0xFB01, 0x61] = [0x46, 0x69, 0x61] := by decide +kernel
-- the recorded deviations: the library's result beside the Unicode default
example : lowerFull .n [0xFB03, 0x3A3] = [0xFB03, 0x3C3] ∧ Gpc.SpecCase.toLower .n [0xFB03, 0x3A3] = [0xFB03, 0x3C2] := by decide +kernel
example : upperFull .n [0x345, 0x307] = [0x307, 0x399] ∧ Gpc.SpecCase.toUpper .n [0x345, 0x307] = [0x399, 0x307] := by decide +kernel
example : lowerFull .lt [0x49, 0x301] = [0x69, 0x301] ∧ Gpc.SpecCase.toLower .lt [0x49, 0x301] = [0x69, 0x307, 0x301] := by decide +kernel

end Gpc.CaseFull
